import ChipFiring.Theory.Bfs
import ChipFiring.Theory.Ewd
import ChipFiring.Theory.Potential
import ChipFiring.Theory.Termination
import ChipFiring.Model.Algos
/-
  C01 — Winnability verdicts are exact.
  Standing hypotheses: `G.WF` (C13.constructed_wf), `Dv.total = deg` (C05.constructor_total), `hcover`
  (the BFS behind the debt concentration reaches every vertex: `cover_of_connected`; decidable, see the
  example), `G.Connected` (only for the degree ≥ genus shortcut).  The statements are about runs that
  return; `ewd_terminates` says they do.
-/
namespace CF.C01
open CF
variable {n : Nat}

/-- plain mode -/
theorem ewd_plain_verdict_exact (G : Graph n) (hs : ∀ v w, G.adj v w = G.adj w v)
    (hint : Fin n → List (Fin n)) (fuel : Nat) (Dv : Divisor n) (r : EwdOut n)
    (hcover : ∀ q v, v ≠ q → v ∈ debtOrder G hint q)
    (h : ewd G hint fuel Dv false = some (.ok r)) :
    r.verdict = true ↔ Winnable G Dv.deg := by
  obtain ⟨q, red, e⟩ := ewd_plain G hs h
  rw [e.verdict_eq, decide_eq_true_eq]
  exact e.verdict (hcover q)

/-- optimized mode: the shortcuts (negative degree ⇒ unwinnable; degree ≥ genus ⇒ winnable, which on a
    connected graph is `winnable_of_deg_ge_genus`) and the reduction give the exact verdict as well -/
theorem ewd_optimized_verdict_exact (G : Graph n) (hG : G.WF) (hc : G.Connected)
    (hint : Fin n → List (Fin n)) (fuel : Nat) (Dv : Divisor n) (r : EwdOut n)
    (htot : Dv.total = deg Dv.deg)
    (hcover : ∀ q v, v ≠ q → v ∈ debtOrder G hint q)
    (h : ewd G hint fuel Dv true = some (.ok r)) :
    r.verdict = true ↔ Winnable G Dv.deg :=
  ewd_verdict_exact G hG hcover (fun _ => ⟨hc, htot⟩) h

theorem ewd_modes_agree (G : Graph n) (hG : G.WF) (hc : G.Connected)
    (hint : Fin n → List (Fin n)) (fuel : Nat) (Dv : Divisor n) (r0 r : EwdOut n)
    (htot : Dv.total = deg Dv.deg)
    (hcover : ∀ q v, v ≠ q → v ∈ debtOrder G hint q)
    (h0 : ewd G hint fuel Dv false = some (.ok r0))
    (h : ewd G hint fuel Dv true = some (.ok r)) : r.verdict = r0.verdict :=
  Bool.eq_iff_iff.mpr <|
    (ewd_optimized_verdict_exact G hG hc hint fuel Dv r htot hcover h).trans
      (ewd_plain_verdict_exact G hG.symm hint fuel Dv r0 hcover h0).symm

/-- `is_winnable(D)` (= optimized EWD) is exact -/
theorem isWinnable_exact (G : Graph n) (hG : G.WF) (hc : G.Connected) (fuel : Nat) (Dv : Divisor n) (b : Bool)
    (htot : Dv.total = deg Dv.deg)
    (hcover : ∀ q v, v ≠ q → v ∈ debtOrder G (fun _ => []) q)
    (h : isWinnable G fuel Dv = some (.ok b)) : b = true ↔ Winnable G Dv.deg := by
  obtain ⟨x, he, hx⟩ := Option.map_eq_some_iff.mp h
  cases x with
  | error e => cases hx
  | ok r =>
    obtain rfl : r.verdict = b := by simpa [Except.map] using hx
    exact ewd_optimized_verdict_exact G hG hc _ fuel Dv r htot hcover he

/-- both modes, every adjacency order, every fuel -/
theorem verdict_exact (G : Graph n) (hG : G.WF) (hc : G.Connected) (hint : Fin n → List (Fin n)) (fuel : Nat)
    (Dv : Divisor n) (htot : Dv.total = deg Dv.deg) (opt : Bool) (r : EwdOut n)
    (h : ewd G hint fuel Dv opt = some (.ok r)) : r.verdict = true ↔ Winnable G Dv.deg :=
  ewd_verdict_exact G hG (cover_of_connected G hG hc hint) (fun _ => ⟨hc, htot⟩) h

/-- the call returns from some fuel on: debt concentration is bounded by least action against a clearing
    script, the firing rounds by the potential Σ b·D of a positive supersolution b of the reduced Laplacian -/
theorem ewd_terminates (G : Graph n) (hG : G.WF) (hc : G.Connected) (hn : 0 < n)
    (hint : Fin n → List (Fin n)) (Dv : Divisor n) (opt : Bool) :
    ∃ F, ∀ fuel, F ≤ fuel → ∃ r, ewd G hint fuel Dv opt = some (.ok r) :=
  CF.ewd_terminates G hG hc hn hint Dv opt

/-- the model has no recording input: the recorded trace is one more output, the field `tr` of the
    result.  The statement itself only says that a result is its four fields. -/
theorem recording_irrelevant (G : Graph n) (hint : Fin n → List (Fin n)) (fuel : Nat) (Dv : Divisor n)
    (opt : Bool) : ∀ r, ewd G hint fuel Dv opt = some (.ok r) →
      ∃ v q red, r = { verdict := v, q := q, red := red, tr := r.tr } := by
  intro r _; exact ⟨r.verdict, r.q, r.red, rfl⟩

/-- non-vacuity: the counter-example quoted with the property (multi-edges, three indebted vertices)
    meets every hypothesis; the verdict is `false` in both modes -/
example : ∃ G : Graph 4, Graph.new 4 false [(0, 3, 3), (1, 2, 2), (2, 3, 1)] = .ok G ∧
    (∀ q v : Fin 4, v ≠ q → v ∈ debtOrder G (fun _ => []) q) ∧
    (∃ r, ewd G (fun _ => []) 1000 (Divisor.ofFn fun v => [-3, -1, -2, 6].getD v.1 0) false = some (.ok r) ∧ r.verdict = false) ∧
    (∃ r, ewd G (fun _ => []) 1000 (Divisor.ofFn fun v => [-3, -1, -2, 6].getD v.1 0) true = some (.ok r) ∧ r.verdict = false) := by
  refine ⟨_, rfl, by decide, ⟨_, rfl, by decide⟩, ⟨_, rfl, by decide⟩⟩

end CF.C01
