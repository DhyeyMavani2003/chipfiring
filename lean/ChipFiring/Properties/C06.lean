import ChipFiring.Theory.Moves
/-
  C06 — The Laplacian is the graph Laplacian; applying a script is exact `D − L·s`.
  `lapEntry` models `_construct_matrix`/`get_matrix_entry` (cached valence on the diagonal), `lapApply`
  models `apply` in unbounded integers.
-/
namespace CF.C06
open CF Finset
variable {n : Nat}

theorem laplacian_symmetric (G : Graph n) (hG : G.WF) (v w : Fin n) : lapEntry G v w = lapEntry G w v := by
  unfold lapEntry
  by_cases h : v = w
  · subst h; rfl
  · have h' : ¬ w = v := fun e => h e.symm
    simp [h, h', hG.symm v w]

theorem diagonal_is_valence (G : Graph n) (hG : G.WF) (v : Fin n) :
    lapEntry G v v = ∑ w, (G.adj v w : Int) := by
  simp [lapEntry, hG.val_eq v]

theorem offdiagonal_is_minus_multiplicity (G : Graph n) (v w : Fin n) (h : v ≠ w) :
    lapEntry G v w = - (G.adj v w : Int) := by simp [lapEntry, h]

theorem row_sums_zero (G : Graph n) (hG : G.WF) (v : Fin n) : ∑ w, lapEntry G v w = 0 := by
  simp [lapEntry_eq G hG, Finset.sum_sub_distrib, hG.val_cast v]

/-- `apply(D, s)` is `D − L·s` -/
theorem apply_eq_spec (G : Graph n) (hG : G.WF) (D s : Fin n → Int) :
    lapApply G D s = applyScript G D s := lapApply_eq G hG D s

theorem apply_additive (G : Graph n) (hG : G.WF) (D s t : Fin n → Int) :
    lapApply G (lapApply G D s) t = lapApply G D (fun v => s v + t v) := by
  rw [apply_eq_spec G hG, apply_eq_spec G hG, apply_eq_spec G hG, applyScript_add]

/-- a scripted move: `true` = lend, `false` = borrow -/
def move (G : Graph n) (D : Fin n → Int) (m : Fin n × Bool) : Fin n → Int :=
  if m.2 then lend G D m.1 else borrow G D m.1

def net (ms : List (Fin n × Bool)) (v : Fin n) : Int :=
  (ms.count (v, true) : Int) - (ms.count (v, false) : Int)

theorem move_eq (G : Graph n) (hG : G.WF) (D : Fin n → Int) (m : Fin n × Bool) :
    move G D m = applyScript G D fun w => if m.2 then chipAt m.1 w else - chipAt m.1 w := by
  unfold move
  split
  · exact lend_eq G hG.symm D m.1
  · exact borrow_eq G hG.symm D m.1

theorem net_cons (m : Fin n × Bool) (ms : List (Fin n × Bool)) :
    net (m :: ms) = fun v => (if m.2 then chipAt m.1 v else - chipAt m.1 v) + net ms v := by
  funext v
  obtain ⟨u, b⟩ := m
  simp only [net, chipAt, List.count_cons, beq_iff_eq, Prod.mk.injEq]
  by_cases h : u = v
  · subst h
    cases b <;> simp <;> ring
  · have h' : ¬ v = u := fun e => h e.symm
    cases b <;> simp [h, h']

/-- in any interleaving -/
theorem apply_eq_sequential_moves (G : Graph n) (hG : G.WF) (ms : List (Fin n × Bool)) (D : Fin n → Int) :
    ms.foldl (move G) D = lapApply G D (net ms) := by
  rw [apply_eq_spec G hG]
  induction ms generalizing D with
  | nil => exact (applyScript_zero G D).symm
  | cons m ms ih => rw [List.foldl_cons, ih, move_eq G hG, applyScript_add, net_cons]

theorem apply_conserves (G : Graph n) (hG : G.WF) (D s : Fin n → Int) : deg (lapApply G D s) = deg D := by
  rw [apply_eq_spec G hG]; exact deg_applyScript G hG.symm D s

/-! script objects: `set` overwrites one entry, `update` adds to it, `get` reads it; unknown
    names are refused and change nothing; untouched entries read 0 -/

theorem script_set (s : Vec Int n) (v : Fin n) (k : Int) :
    sstep s (.set v.1 k) = .ok (mat fun w => if w = v then k else s.get w, none) := by
  simp [sstep]
theorem script_update (s : Vec Int n) (v : Fin n) (k : Int) :
    sstep s (.update v.1 k) = .ok (mat fun w => if w = v then s.get w + k else s.get w, none) := by
  simp [sstep]
theorem script_get (s : Vec Int n) (v : Fin n) : sstep s (.get v.1) = .ok (s, some (s.get v)) := by
  simp [sstep]
theorem script_unknown (s : Vec Int n) (i : Nat) (k : Int) (h : n ≤ i) :
    sstep s (.set i k) = .error () ∧ sstep s (.update i k) = .error () ∧ sstep s (.get i) = .error () := by
  simp [sstep, ref?_eq_none.mpr h]

/-- non-vacuity, with a product beyond 64 bits: K3, s = 2^62·e₀ -/
example : ∃ G : Graph 3, Graph.new 3 false [(0, 1, 1), (1, 2, 1), (0, 2, 1)] = .ok G ∧
    (List.finRange 3).map (lapApply G (fun _ => 0) (fun v => if v = 0 then 2 ^ 62 else 0))
      = [-9223372036854775808, 4611686018427387904, 4611686018427387904] := by
  refine ⟨_, rfl, ?_⟩; decide

end CF.C06
