import ChipFiring.Theory.Moves
import Mathlib.Algebra.Module.Pi
/-
  C12 — Divisor arithmetic is the free abelian group on the vertices.
  `dAdd`, `dSub`, `dNeg`, `dSmul`, `dChip`, `dZero`, `dEq` model `__add__`, `__sub__`, `__neg__`, `__rmul__`,
  `chip`, `zero`, `__eq__`; results are rebuilt through the constructor, which recomputes the cached total.
-/
namespace CF.C12
open CF Finset
variable {n : Nat}

theorem add_vertexwise (A B : Fin n → Int) :
    ∃ d, dAdd true A B = .ok d ∧ (∀ v, d.deg v = A v + B v) ∧ d.total = deg A + deg B :=
  ⟨_, rfl, fun _ => by rw [Divisor.deg_ofFn], (Divisor.total_ofFn _).trans (deg_add A B)⟩

theorem sub_vertexwise (A B : Fin n → Int) :
    ∃ d, dSub true A B = .ok d ∧ (∀ v, d.deg v = A v - B v) ∧ d.total = deg A - deg B :=
  ⟨_, rfl, fun _ => by rw [Divisor.deg_ofFn], (Divisor.total_ofFn _).trans (deg_sub A B)⟩

theorem neg_vertexwise (A : Fin n → Int) : (∀ v, (dNeg A).deg v = - A v) ∧ (dNeg A).total = - deg A :=
  ⟨fun _ => by rw [dNeg, Divisor.deg_ofFn], (Divisor.total_ofFn _).trans (deg_neg A)⟩

theorem smul_vertexwise (k : Int) (A : Fin n → Int) :
    (∀ v, (dSmul k A).deg v = k * A v) ∧ (dSmul k A).total = k * deg A :=
  ⟨fun _ => by rw [dSmul, Divisor.deg_ofFn], (Divisor.total_ofFn _).trans (deg_smul k A)⟩

theorem add_comm' (A B : Fin n → Int) : dAdd true A B = dAdd true B A := by
  rw [dAdd_true, dAdd_true, add_comm]
theorem add_assoc' (A B C : Fin n → Int) :
    dAdd true (fun v => A v + B v) C = dAdd true A (fun v => B v + C v) := by
  rw [dAdd_true, dAdd_true]; exact congrArg _ (congrArg _ (add_assoc A B C))
theorem add_zero' (A : Fin n → Int) : dAdd true A (dZero : Divisor n).deg = .ok (Divisor.ofFn A) := by
  rw [dZero_eq, Divisor.deg_ofFn, dAdd_true, add_zero]
theorem add_neg' (A : Fin n → Int) : dAdd true A (dNeg A).deg = .ok dZero := by
  rw [dNeg_eq, Divisor.deg_ofFn, dAdd_true, add_neg_cancel, dZero_eq]
theorem sub_eq_add_neg (A B : Fin n → Int) : dSub true A B = dAdd true A (dNeg B).deg := by
  rw [dNeg_eq, Divisor.deg_ofFn, dAdd_true, dSub_true, _root_.sub_eq_add_neg]
theorem smul_add (j k : Int) (A : Fin n → Int) :
    dSmul (j + k) A = Divisor.ofFn fun v => (dSmul j A).deg v + (dSmul k A).deg v := by
  rw [dSmul_eq, add_smul]; simp only [dSmul_eq, Divisor.deg_ofFn]; rfl
theorem smul_smul (j k : Int) (A : Fin n → Int) : dSmul j (dSmul k A).deg = dSmul (j * k) A := by
  rw [dSmul_eq, dSmul_eq, dSmul_eq, Divisor.deg_ofFn, _root_.smul_smul]
theorem one_smul' (A : Fin n → Int) : dSmul 1 A = Divisor.ofFn A := by
  rw [dSmul_eq, one_smul]

/-- the cached totals of the results add up as well -/
theorem total_additive (A B : Fin n → Int) :
    (Divisor.ofFn fun v => A v + B v).total = (Divisor.ofFn A).total + (Divisor.ofFn B).total := by
  rw [Divisor.total_ofFn, Divisor.total_ofFn, Divisor.total_ofFn, deg_add]

/-- `chip(G, v)`; an unknown name is refused -/
theorem chip_is_unit (v : Fin n) : ∃ d : Divisor n, dChip v.1 = .ok d ∧ d.deg = chipAt v ∧ d.total = 1 := by
  have h : (dChip v.1 : Except Unit (Divisor n)) =
      .ok { degV := mat fun w => if w = v then 1 else (0:Int), total := 0 + 1 } := by
    simp [dChip, Divisor.new, Divisor.hasDup, Divisor.new.go, Divisor.deg]
  refine ⟨_, h, ?_, ?_⟩
  · funext w; simp [Divisor.deg, chipAt]
  · simp
theorem chip_unknown (i : Nat) (h : n ≤ i) : (dChip i : Except Unit (Divisor n)) = .error () := by
  simp [dChip, Divisor.new, Divisor.hasDup, Divisor.new.go, ref?_eq_none.mpr h]

theorem unit_decomposition (A : Fin n → Int) : A = fun w => ∑ v, A v * chipAt v w := by
  funext w; simp [chipAt]

/-- `__eq__`: same vertex set, same chip counts, same multigraph -/
theorem eq_iff (same : Bool) (G H : Graph n) (A B : Fin n → Int) :
    dEq same G H A B = true ↔ same = true ∧ A = B ∧ G.adj = H.adj := by
  simp only [dEq, graphEqB, Bool.and_eq_true, allF_iff, decide_eq_true_eq]
  constructor
  · rintro ⟨⟨h1, h2⟩, h3⟩; exact ⟨h1, funext h2, funext fun u => funext fun v => h3 u v⟩
  · rintro ⟨h1, h2, h3⟩; exact ⟨⟨h1, fun v => congrFun h2 v⟩, fun u v => congrFun (congrFun h3 u) v⟩

theorem mismatch_rejected (A B : Fin n → Int) : dAdd false A B = .error () ∧ dSub false A B = .error () :=
  ⟨rfl, rfl⟩

theorem sameVertexSet_iff (vs2 : List Nat) :
    sameVertexSet n vs2 = true ↔ vs2.length = n ∧ (∀ i ∈ vs2, i < n) ∧ vs2.Nodup := by
  simp only [sameVertexSet, Bool.and_eq_true, beq_iff_eq, List.all_eq_true, decide_eq_true_eq,
    Bool.not_eq_eq_eq_not, Bool.not_true, hasDup_false_iff, and_assoc]

example : dAdd true (fun (v : Fin 3) => (v.1 : Int) - 1) (fun _ => 2 ^ 70)
    = .ok (Divisor.ofFn fun v => (v.1 : Int) - 1 + 2 ^ 70) := rfl

end CF.C12
