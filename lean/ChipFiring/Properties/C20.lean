import ChipFiring.Theory.GraphInv
import ChipFiring.Theory.OrientInv
import ChipFiring.Theory.Moves
import ChipFiring.Theory.Ref
/-
  C20 — Invalid requests are refused without side effects.
  The machines mirror the order of the code's checks and writes (validate every name of a firing set,
  then transfer; per-edge insertion in batches; flag refresh before the fullness gate).  A refusal is
  `Except.error ()`, an unchanged state in the history runners.
-/
namespace CF.C20
open CF Orient
variable {n : Nat}

/-- `set_fire(S)`: wherever in S the non-vertex stands, nothing is transferred -/
theorem set_fire_refused_iff (G : Graph n) (q : Option (Fin n)) (D : Vec Int n) (S : List Nat) :
    dstep G q D (.fire S) = .error () ↔ ∃ i ∈ S, n ≤ i := by
  rw [← refs?_eq_none]
  simp only [dstep]
  cases refs? n S <;> simp

/-- a configuration additionally refuses the sink inside the firing set -/
theorem cfg_fire_refuses_sink (G : Graph n) (q : Fin n) (D : Vec Int n) (S : List Nat) (h : q.1 ∈ S) :
    dstep G (some q) D (.cfgFire S) = .error () := by
  simp only [dstep]
  cases hS : refs? n S with
  | none => rfl
  | some vs =>
    have : vs.contains q = true := by
      rw [← refs?_eq_some.mp hS] at h
      obtain ⟨w, hw, e⟩ := List.mem_map.mp h
      rw [List.contains_iff_mem]; exact Fin.ext e ▸ hw
    simp only [this, if_true]

/-- every divisor / configuration move -/
theorem moves_refuse_unknown (G : Graph n) (q : Option (Fin n)) (D : Vec Int n) (i : Nat) (hi : n ≤ i) (j : Nat) (k : Int) :
    dstep G q D (.lend i) = .error () ∧ dstep G q D (.borrow i) = .error () ∧
    dstep G q D (.transfer i j k) = .error () ∧ dstep G q D (.transfer j i k) = .error () ∧
    dstep G q D (.cfgLend i) = .error () ∧ dstep G q D (.cfgBorrow i) = .error () ∧
    dstep G q D (.cfgDegreeAt i) = .error () := by
  have hr := ref?_eq_none (n := n).mpr hi
  refine ⟨by simp [dstep, hr], by simp [dstep, hr], ?_, ?_, ?_, ?_, ?_⟩
  · simp only [dstep, hr]; split <;> [rfl; (cases ref? n j <;> rfl)]
  · simp only [dstep, hr]; split <;> [rfl; (cases ref? n j <;> rfl)]
  · cases q <;> simp [dstep, hr]
  · cases q <;> simp [dstep, hr]
  · cases q <;> simp [dstep, hr]

theorem transfer_refuses_nonpositive (G : Graph n) (q : Option (Fin n)) (D : Vec Int n) (a b : Nat) (k : Int) (hk : k ≤ 0) :
    dstep G q D (.transfer a b k) = .error () := by simp [dstep, hk]

theorem degree_at_refuses_sink (G : Graph n) (q : Fin n) (D : Vec Int n) :
    dstep G (some q) D (.cfgDegreeAt q.1) = .error () := by
  simp [dstep]

/-- at any point of the history, since `drun` recurses on the current state -/
theorem divisor_refused_is_identity (G : Graph n) (q : Option (Fin n)) (D : Vec Int n) (o : DOp) (os : List DOp)
    (h : dstep G q D o = .error ()) : drun G q D (o :: os) = (false, D, none) :: drun G q D os := by
  simp only [drun, h]

/-- scripts: get / set / update -/
theorem script_refused_is_identity (s : Vec Int n) (o : SOp) (os : List SOp) (h : sstep s o = .error ()) :
    srun s (o :: os) = (false, s, none) :: srun s os := by simp [srun, h]

/-- `add_edge` -/
theorem graph_refused_is_identity (G : Graph n) (a b : Nat) (k : Int) (h : G.addEdge a b k = .error ()) :
    gapply G (.add a b k) = G := by
  simp [gapply, h]

/-- `set_orientation` on a non-edge or an unknown vertex -/
theorem orientation_refused_is_identity (G : Graph n) (o : Orient n) (a b s : Nat)
    (h : oaccepts G o a b s = false) : oapply G o (.set a b s) = o := by
  unfold oaccepts at h
  simp only [oapply]
  cases ha : ref? n a <;> cases hb : ref? n b <;> simp only [ha, hb] at h ⊢
  rename_i u v
  by_cases hs : s ≤ 2
  · simp only [hs, decide_true, Bool.true_and] at h
    simp only [hs, if_true]
    cases hset : setO G o u v s with
    | ok o' => simp [hset] at h
    | error e => rfl
  · simp [hs]

theorem set_orientation_refuses_nonedge (G : Graph n) (o : Orient n) (u v : Fin n) (s : Nat) (h : G.adj u v = 0) :
    setO G o u v s = .error () := by simp [setO, h]

/-- the fullness gate of `reverse` / `divisor` may refresh the cached fullness flags but never
    touches an edge state or a counter -/
theorem needs_full (G : Graph n) (o : Orient n) :
    (needFull G o).1.stV = o.stV ∧ (needFull G o).1.inV = o.inV ∧ (needFull G o).1.outV = o.outV := by
  unfold needFull; split <;> simp [checkFullness]

theorem needs_full_refuses (G : Graph n) (o : Orient n) (hinv : Inv G o) (h : fullNow G o = false) :
    (needFull G o).2 = false := by
  unfold needFull
  by_cases hc : o.isFullChecked = true
  · simp only [hc, if_true]
    have := hinv.flag hc
    cases hf : o.isFull
    · rfl
    · rw [this.mp hf] at h; exact Bool.noConfusion h
  · simp [hc, checkFullness, h]

/-! constructors: the divisor constructor refuses a list with a repeated vertex, and a one-entry list
    naming an unknown vertex; the orientation constructor's loop refuses, from any state, a list
    whose first pair names an unknown vertex -/

theorem divisor_ctor_rejects (entries : List (Nat × Int)) :
    (Divisor.hasDup (entries.map (·.1)) = true → (Divisor.new entries : Except Unit (Divisor n)) = .error ()) := by
  intro h; simp [Divisor.new, h]

theorem divisor_ctor_rejects_unknown (i : Nat) (k : Int) (hi : n ≤ i) :
    (Divisor.new [(i, k)] : Except Unit (Divisor n)) = .error () := by
  have hr := ref?_eq_none (n := n).mpr hi
  simp [Divisor.new, Divisor.hasDup, Divisor.new.go, hr]

theorem orientation_ctor_rejects (G : Graph n) (a b : Nat) (rest : List (Nat × Nat)) (o : Orient n)
    (h : n ≤ a ∨ n ≤ b) : Orient.new.go G ((a, b) :: rest) o = .error () := by
  unfold Orient.new.go
  rcases h with h | h
  · have := ref?_eq_none (n := n).mpr h; simp [this]
  · have := ref?_eq_none (n := n).mpr h
    cases ha : ref? n a <;> simp [this]

def isErr {α : Type} : Except Unit α → Bool
  | .error _ => true
  | .ok _ => false

example : ∃ G : Graph 3, Graph.new 3 false [(0, 1, 1), (1, 2, 1)] = .ok G ∧
    isErr (dstep G none (mat fun _ => 1) (.fire [0, 7, 1])) = true ∧
    isErr (dstep G (some 2) (mat fun _ => 1) (.cfgFire [0, 2])) = true ∧
    isErr (dstep G (some 2) (mat fun _ => 1) (.cfgFire [0, 1])) = false := by
  refine ⟨_, rfl, by decide, by decide, by decide⟩

end CF.C20
