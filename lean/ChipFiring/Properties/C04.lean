import ChipFiring.Theory.MinStrat
import ChipFiring.Theory.GonSearch
/-
  C04 — Gonality is the least degree of a rank ≥ 1 divisor; strategies are genuine.
-/
namespace CF.C04
open CF Finset
variable {n : Nat}

/-- `play_gonality_game`, for every placement, effective or not -/
theorem playGame_exact (G : Graph n) (hg : Good G) (fuel : Nat) (P : Fin n → Int) (v : Fin n) (b : Bool)
    (h : playGame G fuel P v = some b) : b = true ↔ Winnable G (fun w => P w - chipAt v w) :=
  CF.playGame_exact G hg fuel P v b h

/-- `test_n_chip_strategy`: beats every opponent vertex, i.e. rank ≥ 1 -/
theorem strategyWorks_exact (G : Graph n) (hg : Good G) (fuel : Nat) (P : Fin n → Int) (b : Bool)
    (h : strategyWorks G fuel P = some b) : b = true ↔ RankGeOne G P :=
  CF.strategyWorks_exact G hg fuel P b h

/-- supersets of winning strategies win -/
theorem winnable_mono (G : Graph n) {D F : Fin n → Int} (h : Winnable G D) (hF : Eff F) :
    Winnable G (fun v => D v + F v) := Winnable.add_eff G h hF

/-- gonality ≤ |V|, so the default cut-off never truncates -/
theorem all_ones_wins (G : Graph n) : RankGeOne G (fun _ => 1) ∧ Eff (fun _ : Fin n => (1 : Int)) ∧
    deg (fun _ : Fin n => (1 : Int)) = n := by
  refine ⟨fun v => Eff.winnable G fun w => ?_, fun _ => Int.zero_le_ofNat 1, by simp [deg]⟩
  simp only [chipAt]
  split <;> omega

/-- `gonality(G, max, find_strategies)`: the gonality when it is ≤ max, else −1; the reported strategies
    are genuine and of exactly that many chips -/
theorem computeGonality_exact (G : Graph n) (hg : Good G) (fuel : Nat) (maxGon : Int) (fs : Bool)
    (g : Int) (l : List (Fin n → Int)) (h : computeGonality G fuel maxGon fs = some (g, l)) :
    (g = -1 ∧ l = [] ∧ ∀ D, Eff D → deg D ≤ maxGon → ¬ RankGeOne G D) ∨
    (∃ k : Nat, g = k ∧ 1 ≤ k ∧ (k : Int) ≤ maxGon ∧ IsGonality G k ∧ l ≠ [] ∧
      ∀ P ∈ l, Eff P ∧ deg P = k ∧ RankGeOne G P) :=
  CF.computeGonality_exact G hg fuel maxGon fs g l h

theorem gonality_unique (G : Graph n) (k k' : Nat) (h : IsGonality G k) (h' : IsGonality G k') : k = k' :=
  CF.gonality_unique G k k' h h'

/-- `GonalityDharAlgorithm.test_strategy` -/
theorem dharTestStrategy_exact (G : Graph n) (hg : Good G) (fuel : Nat) (q : Fin n) (base : Fin n → Int)
    (strategy : List (Fin n)) (b : Bool) (h : dharTestStrategy G fuel q base strategy = some b) :
    b = true ↔ Winnable G (fun w => base w + countVec strategy w - chipAt q w) :=
  dharTestStrategy_wins G q base fuel hg strategy b h

def gonVal : Option (Int × List (Fin 4 → Int)) → Option (Int × Nat)
  | some (g, l) => some (g, l.length)
  | none => none

/-- non-vacuity: the 4-cycle has gonality 2; with the cut-off 1 the search answers −1 -/
example : ∃ G : Graph 4, Graph.new 4 false [(0, 1, 1), (1, 2, 1), (2, 3, 1), (3, 0, 1)] = .ok G ∧
    gonVal (computeGonality G 1000 4 false) = some (2, 1) ∧
    (gonVal (computeGonality G 1000 1 true)) = some (-1, 0) := by
  refine ⟨_, rfl, by decide +kernel, by decide +kernel⟩

/-- on a connected graph the standing hypotheses `Good G` hold -/
theorem computeGonality_exact_connected (G : Graph n) (hG : G.WF) (hc : G.Connected) (hn : 0 < n) (fuel : Nat)
    (maxGon : Int) (fs : Bool) (g : Int) (l : List (Fin n → Int)) (h : computeGonality G fuel maxGon fs = some (g, l)) :
    (g = -1 ∧ l = [] ∧ ∀ D, Eff D → deg D ≤ maxGon → ¬ RankGeOne G D) ∨
    (∃ k : Nat, g = k ∧ 1 ≤ k ∧ (k : Int) ≤ maxGon ∧ IsGonality G k ∧ l ≠ [] ∧
      ∀ P ∈ l, Eff P ∧ deg P = k ∧ RankGeOne G P) :=
  computeGonality_exact G (good_of_connected G hG hc hn) fuel maxGon fs g l h

/-- `enhanced_dhar_gonality_test`: the least number of chips off q of a non-empty placement that survives a
    chip removed at q (cut-off + 1 when there is none), with exactly the surviving placements of that size,
    each up to the order of its chips -/
theorem per_sink_search_exact (G : Graph n) (hg : Good G) (fuel : Nat) (q : Fin n) (vt : List (Fin n)) (hnd : vt.Nodup)
    (maxGon k : Nat) (ms : List (List (Fin n))) (h : enhancedDhar G fuel q vt maxGon = some (k, ms)) :
    (ms = [] ∧ k = maxGon + 1 ∧
      ∀ s, (∀ x ∈ s, x ∈ vt) → s ≠ [] → s.length ≤ maxGon → ¬ Wins G q (fun _ => 0) s) ∨
    (1 ≤ k ∧ k ≤ maxGon ∧ ms ≠ [] ∧
      (∀ t ∈ ms, t.length = k ∧ (∀ x ∈ t, x ∈ vt) ∧ Wins G q (fun _ => 0) t) ∧
      (∀ s, (∀ x ∈ s, x ∈ vt) → s ≠ [] → s.length < k → ¬ Wins G q (fun _ => 0) s) ∧
      (∀ s, (∀ x ∈ s, x ∈ vt) → s.length = k → Wins G q (fun _ => 0) s → ∃ t ∈ ms, ∀ v, t.count v = s.count v)) :=
  enhancedDhar_exact G q fuel hg vt hnd maxGon k ms h

/-- `find_minimal_winning_strategies`, any base divisor and cut-off: exactly the non-empty winners none
    of whose one-chip-smaller non-empty placements wins, up to the order of the chips -/
theorem minimal_strategies_exact (G : Graph n) (hg : Good G) (fuel : Nat) (q : Fin n) (base : Fin n → Int)
    (vt : List (Fin n)) (hnd : vt.Nodup) (maxChips : Nat) (found : List (List (Fin n)))
    (h : minimalStrategies G fuel q base vt maxChips = some found) :
    (∀ t ∈ found, t ≠ [] ∧ t.length ≤ maxChips ∧ (∀ x ∈ t, x ∈ vt) ∧ MinWin G q base t) ∧
    (∀ s, (∀ x ∈ s, x ∈ vt) → s ≠ [] → s.length ≤ maxChips → MinWin G q base s →
      ∃ t ∈ found, ∀ v, t.count v = s.count v) := by
  have hinv := minimalStrategies_spec G q base fuel hg vt maxChips found h
  refine ⟨fun t ht => found_sound G q base hinv ht, fun s hs hne hM hmw => ?_⟩
  obtain ⟨t, ht, hts⟩ := minWin_found G q base vt maxChips found hinv s hs hne hM hmw
  exact ⟨t, ht, List.perm_iff_count.mp hts⟩

end CF.C04
