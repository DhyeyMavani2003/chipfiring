import ChipFiring.Theory.Bfs
import ChipFiring.Theory.Ewd
import ChipFiring.Theory.Termination
import ChipFiring.Model.Algos
/-
  C02 — q-reduction returns the unique q-reduced representative of the class.
  `q_reduction(D)` is the second component of plain-mode `EWD`: the `Reduced` record `red` with its sink `q`.
-/
namespace CF.C02
open CF
variable {n : Nat}

/-- same class, same degree -/
theorem qred_linEq (G : Graph n) (hs : ∀ v w, G.adj v w = G.adj w v) (hint : Fin n → List (Fin n))
    (fuel : Nat) (Dv : Divisor n) (r : EwdOut n) (h : ewd G hint fuel Dv false = some (.ok r)) :
    ∃ q red, r.q = some q ∧ r.red = some red ∧ LinEq G Dv.deg red.D ∧ deg red.D = deg Dv.deg := by
  obtain ⟨q, red, e⟩ := ewd_plain G hs h
  exact ⟨q, red, e.q_eq, e.red_eq, e.linEq, e.deg_eq hs⟩

/-- the sink has minimum degree (that the model takes the least index among ties is `sink_eq_argmin`) -/
theorem qred_sink_is_min (G : Graph n) (hint : Fin n → List (Fin n))
    (fuel : Nat) (Dv : Divisor n) (r : EwdOut n) (h : ewd G hint fuel Dv false = some (.ok r)) :
    ∃ q, r.q = some q ∧ ∀ v, Dv.deg q ≤ Dv.deg v := by
  rcases ewd_ok G h with ⟨ho, -⟩ | ⟨ho, -⟩ | ⟨q, red, hq, -, rfl⟩
  · simp at ho
  · simp at ho
  · exact ⟨q, rfl, sink_min hq⟩

/-- no debt off the sink, no non-empty legal set-firing away from it -/
theorem qred_is_qreduced (G : Graph n) (hs : ∀ v w, G.adj v w = G.adj w v) (hint : Fin n → List (Fin n))
    (fuel : Nat) (Dv : Divisor n) (r : EwdOut n)
    (hcover : ∀ q v, v ≠ q → v ∈ debtOrder G hint q)
    (h : ewd G hint fuel Dv false = some (.ok r)) :
    ∃ q red, r.q = some q ∧ r.red = some red ∧ QReduced G q red.D := by
  obtain ⟨q, red, e⟩ := ewd_plain G hs h
  exact ⟨q, red, e.q_eq, e.red_eq, e.qreduced (hcover q)⟩

/-- equivalent inputs, the same q: identical outputs, whatever adjacency orders and fuel the runs used -/
theorem qred_unique (G : Graph n) (hs : ∀ v w, G.adj v w = G.adj w v)
    (hint hint' : Fin n → List (Fin n)) (fuel fuel' : Nat) (Dv Dv' : Divisor n) (r r' : EwdOut n)
    (hcover : ∀ q v, v ≠ q → v ∈ debtOrder G hint q) (hcover' : ∀ q v, v ≠ q → v ∈ debtOrder G hint' q)
    (h : ewd G hint fuel Dv false = some (.ok r)) (h' : ewd G hint' fuel' Dv' false = some (.ok r'))
    (heq : LinEq G Dv.deg Dv'.deg) (hq : r.q = r'.q) :
    ∃ red red', r.red = some red ∧ r'.red = some red' ∧ red.D = red'.D := by
  obtain ⟨q, red, e⟩ := ewd_plain G hs h
  obtain ⟨q', red', e'⟩ := ewd_plain G hs h'
  obtain rfl : q = q' := by rw [e.q_eq, e'.q_eq] at hq; exact Option.some.inj hq
  exact ⟨red, red', e.red_eq, e'.red_eq, qreduced_unique G q _ _ (e.qreduced (hcover q)) (e'.qreduced (hcover' q))
    (e.linEq.symm.trans (heq.trans e'.linEq))⟩

theorem verdict_iff_no_debt_at_q (G : Graph n) (hs : ∀ v w, G.adj v w = G.adj w v) (hint : Fin n → List (Fin n))
    (fuel : Nat) (Dv : Divisor n) (r : EwdOut n)
    (hcover : ∀ q v, v ≠ q → v ∈ debtOrder G hint q)
    (h : ewd G hint fuel Dv false = some (.ok r)) :
    ∃ q red, r.q = some q ∧ r.red = some red ∧ (r.verdict = true ↔ 0 ≤ red.D q) ∧ (r.verdict = true ↔ Eff red.D) := by
  obtain ⟨q, red, e⟩ := ewd_plain G hs h
  have hqr := e.qreduced (hcover q)
  refine ⟨q, red, e.q_eq, e.red_eq, by rw [e.verdict_eq, decide_eq_true_eq], ?_⟩
  rw [e.verdict_eq, decide_eq_true_eq]
  exact ⟨fun h0 v => if hv : v = q then hv ▸ h0 else hqr.1 v hv, fun he => he q⟩

/-- `is_q_reduced` as coded compares the in-place result with its own argument: `true` on every input on
    which EWD returns.  The "exactly when" clause is therefore refuted (known finding K1). -/
def isQReducedApi (G : Graph n) (fuel : Nat) (Dv : Divisor n) : Option Bool :=
  match ewd G (fun _ => []) fuel Dv false with
  | some (.ok _) => some true
  | _ => none

theorem isQReducedApi_const (G : Graph n) (fuel : Nat) (Dv : Divisor n) (b : Bool)
    (h : isQReducedApi G fuel Dv = some b) : b = true := by
  unfold isQReducedApi at h; split at h <;> simp_all

/-- K1 witness: on the triangle, D = (3,−1,0) is not q-reduced, yet the API answers `true` -/
theorem isQReduced_refuted : ∃ G : Graph 3, Graph.new 3 false [(0, 1, 1), (1, 2, 1), (0, 2, 1)] = .ok G ∧
    isQReducedApi G 1000 (Divisor.ofFn fun v => [3, -1, 0].getD v.1 0) = some true ∧
    (∃ r red, ewd G (fun _ => []) 1000 (Divisor.ofFn fun v => [3, -1, 0].getD v.1 0) false = some (.ok r) ∧
      r.red = some red ∧ (List.finRange 3).map red.D ≠ [3, -1, 0]) := by
  refine ⟨_, rfl, by decide, _, _, rfl, rfl, by decide⟩

/-- the half of the clause that holds -/
theorem isQReduced_partial (G : Graph n) (fuel : Nat) (Dv : Divisor n) (r : EwdOut n)
    (h : ewd G (fun _ => []) fuel Dv false = some (.ok r)) : isQReducedApi G fuel Dv = some true := by
  simp [isQReducedApi, h]

/-- on a connected graph, with no side condition on the BFS, `q_reduction` returns, and returns the
    representative -/
theorem q_reduction_spec (G : Graph n) (hG : G.WF) (hc : G.Connected) (hn : 0 < n)
    (hint : Fin n → List (Fin n)) (Dv : Divisor n) :
    ∃ F, ∀ fuel, F ≤ fuel → ∃ r q red, ewd G hint fuel Dv false = some (.ok r) ∧ r.q = some q ∧ r.red = some red ∧
      (∀ v, Dv.deg q ≤ Dv.deg v) ∧ LinEq G Dv.deg red.D ∧ QReduced G q red.D ∧
      (r.verdict = true ↔ 0 ≤ red.D q) := by
  have hcov := cover_of_connected G hG hc hint
  obtain ⟨F, hF⟩ := ewd_terminates G hG hc hn hint Dv false
  refine ⟨F, fun fuel hf => ?_⟩
  obtain ⟨r, hr⟩ := hF fuel hf
  obtain ⟨q, red, e⟩ := ewd_plain G hG.symm hr
  exact ⟨r, q, red, hr, e.q_eq, e.red_eq, sink_min e.sink_eq, e.linEq, e.qreduced (hcov q),
    by rw [e.verdict_eq, decide_eq_true_eq]⟩

end CF.C02
