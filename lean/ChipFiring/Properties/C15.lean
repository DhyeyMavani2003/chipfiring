import ChipFiring.Theory.Txt
import ChipFiring.Theory.TxtFile
import ChipFiring.Theory.JsonText
import ChipFiring.Theory.JsonDecode
import ChipFiring.Theory.OrientRT
import ChipFiring.Theory.Serial
import ChipFiring.Theory.Moves
import Std.Data.String.ToInt
/-
  C15 — Save/load round-trips every object; damaged files never raise.
  Dict level (`to_dict` / `from_dict`); the TXT text layer (`to_txt` / `read_txt`) up to whole files and
  through the constructors; for JSON the modelled text of `json.dump`: truncation, ASCII, strings.
  Not modelled: CPython's `json` parser beyond strings, the byte layer, the damaged-file clause.
-/
namespace CF.C15
open CF Finset
variable {n : Nat}

/-- `CFGraph.from_dict(G.to_dict())` has the same multiplicities, cached valences and edge total -/
theorem graph_dict_roundtrip (G : Graph n) (hG : G.WF) :
    ∃ G', Graph.new n false (dictEdges G) = .ok G' ∧ G'.adj = G.adj ∧ G'.val = G.val ∧ G'.total = G.total :=
  ⟨G, CF.graph_dict_roundtrip G hG, rfl, rfl, rfl⟩

/-- `to_dict`'s edge list: every unordered pair once, smaller name first -/
theorem edge_list_canonical (G : Graph n) (a b : Fin n) (k : Nat) :
    (a, b, k) ∈ G.edgeList ↔ a.1 < b.1 ∧ 0 < G.adj a b ∧ k = G.adj a b := mem_edgeList G a b k

/-- `CFDivisor.from_dict(D.to_dict())`: the same chip counts, and the total the constructor caches
    is their sum -/
theorem divisor_dict_roundtrip (D : Fin n → Int) :
    ∃ d : Divisor n, Divisor.new ((List.finRange n).map fun v => (v.1, D v)) = .ok d ∧ d.deg = D ∧ d.total = deg D := by
  -- the divisor constructor's loop is the script constructor's loop on the degrees (`Divisor.new_go_eq`)
  obtain ⟨t, h1, h2⟩ := scriptNew_go D (List.finRange n) (List.nodup_finRange n) (mat fun _ => 0)
  have hdup : Divisor.hasDup (((List.finRange n).map fun v => (v.1, D v)).map (·.1)) = false := by
    rw [hasDup_false_iff, List.map_map]
    exact (List.nodup_finRange n).map_on fun a _ b _ h => Fin.ext h
  obtain ⟨k, hnew⟩ : ∃ k, Divisor.new ((List.finRange n).map fun v => (v.1, D v)) = .ok ⟨t, k⟩ :=
    ⟨_, by rw [Divisor.new, hdup, if_neg Bool.false_ne_true, Divisor.new_go_eq, h1]; rfl⟩
  have hdeg : Divisor.deg ⟨t, k⟩ = D := funext fun w => by rw [Divisor.deg, h2 w]; simp
  exact ⟨_, hnew, hdeg, by rw [Divisor.new_total _ _ hnew, hdeg]⟩

/-- the script is rebuilt from its net-firing map, listed in full or, as the TXT writer does, only where
    non-zero: missing vertices read 0 -/
theorem script_dict_roundtrip (s : Fin n → Int) (vs : List (Fin n)) (hnd : vs.Nodup)
    (hsupp : ∀ w, w ∉ vs → s w = 0) :
    ∃ t : Vec Int n, scriptNew (vs.map fun v => (v.1, s v)) = .ok t ∧ t.get = s := by
  obtain ⟨t, h1, h2⟩ := scriptNew_go s vs hnd (mat fun _ => 0)
  refine ⟨t, h1, ?_⟩
  funext w
  rw [h2 w]
  by_cases hw : w ∈ vs
  · simp [hw]
  · simp [hw, hsupp w hw]

/-- about Lean's own `String.toInt?`; the model of Python's `int()` is in `txt_int_roundtrip` -/
theorem decimal_roundtrip (k : Int) : k.repr.toInt? = some k := Int.toInt?_repr k

/-- non-vacuity: repeated pairs in both endpoint orders are merged into one canonical entry -/
example : ∃ G : Graph 3, Graph.new 3 false [(1, 0, 2), (2, 1, 1), (0, 1, 1)] = .ok G ∧
    dictEdges G = [(0, 1, 3), (1, 2, 1)] := by
  refine ⟨_, rfl, by decide +kernel⟩

/-- the oriented edges (source first) that `to_dict` writes, in any order, restore every edge state and
    both counters -/
theorem orientation_dict_roundtrip (G : Graph n) (hG : G.WF) (o : Orient n) (hinv : Orient.Inv G o)
    (ps : List (Fin n × Fin n)) (hnd : ps.Nodup)
    (hps : ∀ a b, (a, b) ∈ ps ↔ 0 < G.adj a b ∧ o.st a b = 1) :
    ∃ o', Orient.new G (ps.map fun p => (p.1.1, p.2.1)) = .ok o' ∧
      (∀ x y, o'.st x y = o.st x y) ∧ (∀ v, o'.inD v = o.inD v) ∧ (∀ v, o'.outD v = o.outD v) :=
  CF.orientation_dict_roundtrip G hG o hinv ps hnd hps

/-- **TXT field layer**: `', '.join` read back with `[p.strip() for p in rest.split(',')]` returns the
    fields, for ≥ 1 fields without comma that `strip()` leaves alone.  (`joinFields`, `splitOn`, `stripPy`
    are compared with Python's own on generated strings in the correspondence run.) -/
theorem txt_fields_roundtrip (fs : List (List Char)) (hne : fs ≠ [])
    (hclean : ∀ f ∈ fs, Txt.cleanField f = true) :
    Txt.parseFields (' ' :: Txt.joinFields fs) = fs := Txt.parse_join fs hne hclean

/-- a record line: the reader removes the prefix with `str.replace`, hence no colon in the fields -/
theorem txt_line_roundtrip (P : List Char) (hP : ':' ∈ P) (fs : List (List Char)) (hne : fs ≠ [])
    (hclean : ∀ f ∈ fs, Txt.cleanField f = true) (hcolon : ∀ f ∈ fs, ':' ∉ f) :
    Txt.parseFields (Txt.removeAll P (P ++ ' ' :: Txt.joinFields fs)) = fs :=
  Txt.line_roundtrip P hP fs hne hclean hcolon

/-- the decimal text of any integer is a representable field -/
theorem txt_int_field_clean (k : Int) : Txt.cleanField k.repr.toList = true := Txt.int_field_clean k

/-- EDGE / DEGREE / FIRING records: names, then an integer -/
theorem txt_record_roundtrip (names : List (List Char)) (k : Int)
    (hclean : ∀ f ∈ names, Txt.cleanField f = true) :
    Txt.parseFields (' ' :: Txt.joinFields (names ++ [k.repr.toList])) = names ++ [k.repr.toList] ∧
    k.repr.toInt? = some k := by
  refine ⟨Txt.parse_join _ (by simp) fun f hf => ?_, Int.toInt?_repr k⟩
  rcases List.mem_append.mp hf with h | h
  · exact hclean f h
  · rw [List.mem_singleton.mp h]; exact Txt.int_field_clean k

/-- **TXT graph files**: `read_txt(…, 'graph')` on the text `to_txt` writes reaches the constructor with
    exactly the names (possibly none) and the edge records -/
theorem txt_graph_file_roundtrip (names : List Txt.Str) (edges : List Txt.Edge)
    (hn : ∀ f ∈ names, Txt.nameOK f = true)
    (he : ∀ e ∈ edges, Txt.nameOK e.1 = true ∧ Txt.nameOK e.2.1 = true) :
    Txt.readGraph (Txt.writeText (Txt.writeGraph names edges)) = some (names, edges) :=
  Txt.readGraph_writeGraph names edges (Txt.NameOK.of_names hn) (Txt.NameOK.of_edges he)

/-- … also when the file carries `\r\n` line ends (text-mode reading translates them) -/
theorem txt_graph_file_roundtrip_crlf (names : List Txt.Str) (edges : List Txt.Edge)
    (hn : ∀ f ∈ names, Txt.nameOK f = true)
    (he : ∀ e ∈ edges, Txt.nameOK e.1 = true ∧ Txt.nameOK e.2.1 = true) :
    Txt.readGraph (Txt.writeTextCRLF (Txt.writeGraph names edges)) = some (names, edges) := by
  have hw := Txt.written_writeGraph names edges (Txt.NameOK.of_names hn) (Txt.NameOK.of_edges he)
  have := txt_graph_file_roundtrip names edges hn he
  unfold Txt.readGraph at this ⊢
  rwa [Txt.readLines_crlf _ (fun l hl => (hw l hl).nl) (fun l hl => (hw l hl).cr)]

/-- **TXT divisor files**: names, edges and the `(vertex, chips)` records come back, any integers -/
theorem txt_divisor_file_roundtrip (names : List Txt.Str) (edges : List Txt.Edge) (degs : List (Txt.Str × Int))
    (hn : ∀ f ∈ names, Txt.nameOK f = true)
    (he : ∀ e ∈ edges, Txt.nameOK e.1 = true ∧ Txt.nameOK e.2.1 = true)
    (hd : ∀ r ∈ degs, Txt.nameOK r.1 = true) :
    Txt.readDivisor (Txt.writeText (Txt.writeDivisor names edges degs)) = some (names, edges, degs) := by
  have := Txt.readSec_write _ _ Txt.secOK_degrees Txt.mkInt Txt.snoc (fun r => (r.1, r.2.repr.toList))
    names edges degs (Txt.NameOK.of_names hn) (Txt.NameOK.of_edges he)
    (fun r hr => ⟨(Txt.nameOK_iff _).mp (hd r hr), Txt.NameOK.int _, Txt.mkInt_repr _ _⟩)
  rwa [Txt.foldl_snoc, List.nil_append] at this

/-- **TXT orientation files**: names, edges and the `(source, sink)` records come back -/
theorem txt_orientation_file_roundtrip (names : List Txt.Str) (edges : List Txt.Edge) (os : List (Txt.Str × Txt.Str))
    (hn : ∀ f ∈ names, Txt.nameOK f = true)
    (he : ∀ e ∈ edges, Txt.nameOK e.1 = true ∧ Txt.nameOK e.2.1 = true)
    (ho : ∀ r ∈ os, Txt.nameOK r.1 = true ∧ Txt.nameOK r.2 = true) :
    Txt.readOrientation (Txt.writeText (Txt.writeOrientation names edges os)) = some (names, edges, os) := by
  have := Txt.readSec_write _ _ Txt.secOK_orientations Txt.mkPair Txt.snoc (fun r => r)
    names edges os (Txt.NameOK.of_names hn) (Txt.NameOK.of_edges he)
    (fun r hr => ⟨(Txt.nameOK_iff _).mp (ho r hr).1, (Txt.nameOK_iff _).mp (ho r hr).2, rfl⟩)
  rwa [Txt.foldl_snoc, List.nil_append] at this

/-- **TXT firing-script files**: the writer lists the non-zero net firings; exactly those come back (the
    constructor gives the others 0: `script_dict_roundtrip`) -/
theorem txt_script_file_roundtrip (names : List Txt.Str) (edges : List Txt.Edge) (fs : List (Txt.Str × Int))
    (hn : ∀ f ∈ names, Txt.nameOK f = true)
    (he : ∀ e ∈ edges, Txt.nameOK e.1 = true ∧ Txt.nameOK e.2.1 = true)
    (hf : ∀ r ∈ fs, Txt.nameOK r.1 = true) (hnd : (fs.map (·.1)).Nodup) :
    Txt.readScript (Txt.writeText (Txt.writeScript names edges fs)) =
      some (names, edges, fs.filter fun r => r.2 != 0) := by
  have := Txt.readSec_write _ _ Txt.secOK_script Txt.mkInt Txt.dictSet (fun r => (r.1, r.2.repr.toList))
    names edges (fs.filter fun r => r.2 != 0) (Txt.NameOK.of_names hn) (Txt.NameOK.of_edges he)
    (fun r hr => ⟨(Txt.nameOK_iff _).mp (hf r (List.mem_filter.mp hr).1), Txt.NameOK.int _, Txt.mkInt_repr _ _⟩)
  rwa [Txt.foldl_dictSet _ [] (by rw [List.nil_append]; exact (List.filter_sublist.map _).nodup hnd),
    List.nil_append] at this

/-- `int(str(k)) = k`.  Not modelled: CPython's limit of 4300 digits, beyond which `int()` / `str()` raise
    `ValueError`; "any integer" in the file theorems means any the interpreter converts. -/
theorem txt_int_roundtrip (k : Int) : Txt.pyInt? k.repr.toList = some k := Txt.pyInt_repr k

/-- non-vacuity: representable names (blanks inside, non-ASCII, digits, prefix look-alikes) and rejected
    ones; a concrete divisor file meets the hypotheses -/
example : Txt.nameOK ['a', ' ', 'b'] = true ∧ Txt.nameOK ['é'] = true ∧ Txt.nameOK ['-', '7'] = true ∧
    Txt.nameOK ['E', 'D', 'G', 'E'] = true ∧ Txt.nameOK [] = false ∧ Txt.nameOK ['a', ','] = false ∧
    Txt.nameOK ['x', ':', 'y'] = false ∧ Txt.nameOK [' ', 'a'] = false ∧ Txt.nameOK ['a', '\n', 'b'] = false := by
  decide

example : Txt.readDivisor (Txt.writeText (Txt.writeDivisor [['a', ' ', 'b'], ['c']] [(['a', ' ', 'b'], ['c'], 3)]
    [(['a', ' ', 'b'], -5), (['c'], 10 ^ 30)])) =
    some ([['a', ' ', 'b'], ['c']], [(['a', ' ', 'b'], ['c'], 3)], [(['a', ' ', 'b'], -5), (['c'], 10 ^ 30)]) :=
  txt_divisor_file_roundtrip _ _ _ (by decide) (by decide) (by decide)

/-- the empty graph: written as a names line with an empty field, which the reader takes for no
    vertices (not for one vertex with the empty name) -/
example : Txt.readGraph (Txt.writeText (Txt.writeGraph [] [])) = some ([], []) :=
  txt_graph_file_roundtrip [] [] (by simp) (by simp)

/-- **truncated JSON files**: for any dict of the value shapes the library serialises, any indent and key
    order, every proper non-empty prefix of the `json.dump` text ends inside a bracket or a string, and
    the whole text is closed.  (Trusted, and compared with `json.loads` in every run: CPython rejects a
    text that is empty or open at its end, so `read_json` returns `None`.) -/
theorem json_truncation_open_any (ind : Nat) (l : List (JsonText.Str × JsonText.JV)) (p : JsonText.Str)
    (hp : p <+: JsonText.dumps ind (.obj l)) (hne : p ≠ []) (hproper : p ≠ JsonText.dumps ind (.obj l)) :
    JsonText.openAtEnd p = true ∧ JsonText.openAtEnd (JsonText.dumps ind (.obj l)) = false := by
  obtain ⟨⟨hfull, -⟩, hopen⟩ := JsonText.dumps_obj_balC ind l
  rw [JsonText.openAtEnd_eq, JsonText.openAtEnd_eq, hfull, decide_eq_true (hopen p hp hne hproper)]
  exact ⟨rfl, rfl⟩

/-- … in particular for the four `to_dict` shapes as the library writes them (`indent=4`) -/
theorem json_truncation_open (v : JsonText.JV) (hv : JsonText.IsFileJV v) (p : JsonText.Str)
    (hp : p <+: JsonText.dumps 4 v) (hne : p ≠ []) (hproper : p ≠ JsonText.dumps 4 v) :
    JsonText.openAtEnd p = true ∧ JsonText.openAtEnd (JsonText.dumps 4 v) = false := by
  cases hv <;> exact json_truncation_open_any 4 _ p hp hne hproper

/-- `ensure_ascii`: a byte prefix of the file is a character prefix of the text, so byte truncations
    are covered by `json_truncation_open` -/
theorem json_text_ascii (ind : Nat) (v : JsonText.JV) : ∀ c ∈ JsonText.dumps ind v, c.toNat < 128 :=
  (JsonText.ser_emitted ind 0 v).ascii

/-- **any string survives the JSON text**: `py_scanstring` (strict mode) on what the encoder writes for a
    string returns it — quotes, backslashes, control characters, non-ASCII, beyond the BMP included -/
theorem json_string_roundtrip (s : JsonText.Str) : JsonText.decodeStr (JsonText.quote s) = some s := by
  have hlen := JsonText.length_flatMap_escChar s
  unfold JsonText.decodeStr JsonText.quote
  simp only [List.cons_append, if_true]
  rw [JsonText.scanStr_body s _ (by simp only [List.length_append, List.length_cons, List.length_nil]; omega) []]

/-- non-vacuity: the file of the empty graph and its first character as a proper prefix; the
    scanner sees through escaped quotes and brackets inside names -/
example : JsonText.openAtEnd ['{'] = true ∧ JsonText.openAtEnd (JsonText.dumps 4 (JsonText.graphJV [] [])) = false :=
  json_truncation_open _ (.graph [] []) ['{'] ⟨_, rfl⟩ (by simp) (by decide +kernel)

example : JsonText.openAtEnd (JsonText.dumps 4 (JsonText.divisorJV [['a'], ['"', ']', 'é']] [(['a'], ['"', ']', 'é'], 2)]
    [(['a'], -3), (['"', ']', 'é'], 7)])) = false := by decide +kernel

/-- the edge records `to_txt` writes for a graph whose vertex `v` is called `nm v` -/
def namedEdges (G : Graph n) (nm : Fin n → Txt.Str) : List Txt.Edge :=
  G.edgeList.map fun e => (nm e.1, nm e.2.1, (e.2.2 : Int))

/-- the constructor finds a vertex by its name: here, its position in the (sorted, duplicate-free)
    name list that the harness and the model use as the vertex index -/
def resolveEdges (names : List Txt.Str) (es : List Txt.Edge) : List (Nat × Nat × Int) :=
  es.map fun e => (names.idxOf e.1, names.idxOf e.2.1, e.2.2)

abbrev nameAt (names : List Txt.Str) (hlen : names.length = n) (v : Fin n) : Txt.Str := names[v.1]'(hlen ▸ v.2)

theorem nameAt_ok (names : List Txt.Str) (hlen : names.length = n) (hok : ∀ f ∈ names, Txt.nameOK f = true) (v : Fin n) :
    Txt.nameOK (nameAt names hlen v) = true :=
  hok _ (List.getElem_mem _)

theorem idxOf_nameAt (names : List Txt.Str) (hlen : names.length = n) (hnd : names.Nodup) (v : Fin n) :
    names.idxOf (nameAt names hlen v) = v.1 :=
  List.get_idxOf hnd ⟨v.1, hlen ▸ v.2⟩

theorem nameAt_injective (names : List Txt.Str) (hlen : names.length = n) (hnd : names.Nodup) :
    Function.Injective (nameAt names hlen) := fun a b h =>
  Fin.ext (by rw [← idxOf_nameAt names hlen hnd a, h, idxOf_nameAt names hlen hnd b])

theorem namedEdges_ok (G : Graph n) (names : List Txt.Str) (hlen : names.length = n)
    (hok : ∀ f ∈ names, Txt.nameOK f = true) :
    ∀ e ∈ namedEdges G (nameAt names hlen), Txt.nameOK e.1 = true ∧ Txt.nameOK e.2.1 = true := by
  intro e he
  obtain ⟨⟨a, b, k⟩, -, rfl⟩ := List.mem_map.mp he
  exact ⟨nameAt_ok names hlen hok a, nameAt_ok names hlen hok b⟩

theorem graph_of_namedEdges (G : Graph n) (names : List Txt.Str) (hlen : names.length = n) (hG : G.WF)
    (hnd : names.Nodup) :
    ∃ G', Graph.new n false (resolveEdges names (namedEdges G (nameAt names hlen))) = .ok G' ∧
      G'.adj = G.adj ∧ G'.val = G.val ∧ G'.total = G.total := by
  have hres : resolveEdges names (namedEdges G (nameAt names hlen)) = dictEdges G := by
    unfold resolveEdges namedEdges dictEdges
    rw [List.map_map]
    apply List.map_congr_left
    rintro ⟨a, b, k⟩ -
    simp [idxOf_nameAt names hlen hnd]
  rw [hres]
  exact graph_dict_roundtrip G hG

/-- **a graph through a TXT file, end to end** (`txt_graph_file_roundtrip`, then `graph_dict_roundtrip`
    on the edges resolved against the name list): representable, distinct names -/
theorem txt_graph_object_roundtrip (G : Graph n) (hG : G.WF) (names : List Txt.Str) (hlen : names.length = n)
    (hnd : names.Nodup) (hok : ∀ f ∈ names, Txt.nameOK f = true) :
    ∃ es G', Txt.readGraph (Txt.writeText (Txt.writeGraph names
        (namedEdges G fun v => names[v.1]'(hlen ▸ v.2)))) = some (names, es) ∧
      Graph.new n false (resolveEdges names es) = .ok G' ∧ G'.adj = G.adj ∧ G'.val = G.val ∧ G'.total = G.total := by
  obtain ⟨G', hG'⟩ := graph_of_namedEdges G names hlen hG hnd
  exact ⟨_, G', txt_graph_file_roundtrip names _ hok (namedEdges_ok G names hlen hok), hG'⟩

/-- **a divisor through a TXT file, end to end**: the same graph, chip counts and cached total -/
theorem txt_divisor_object_roundtrip (G : Graph n) (hG : G.WF) (D : Fin n → Int) (names : List Txt.Str)
    (hlen : names.length = n) (hnd : names.Nodup) (hok : ∀ f ∈ names, Txt.nameOK f = true) :
    ∃ es recs G' d, Txt.readDivisor (Txt.writeText (Txt.writeDivisor names
        (namedEdges G fun v => names[v.1]'(hlen ▸ v.2))
        ((List.finRange n).map fun v => (names[v.1]'(hlen ▸ v.2), D v)))) = some (names, es, recs) ∧
      Graph.new n false (resolveEdges names es) = .ok G' ∧ G'.adj = G.adj ∧ G'.val = G.val ∧ G'.total = G.total ∧
      Divisor.new (recs.map fun r => (names.idxOf r.1, r.2)) = .ok d ∧ d.deg = D ∧ d.total = deg D := by
  obtain ⟨G', h1, h2, h3, h4⟩ := graph_of_namedEdges G names hlen hG hnd
  obtain ⟨d, hd1, hd2, hd3⟩ := divisor_dict_roundtrip D
  refine ⟨_, _, G', d, txt_divisor_file_roundtrip names _ _ hok (namedEdges_ok G names hlen hok)
    (List.forall_mem_map.mpr fun v _ => nameAt_ok names hlen hok v), h1, h2, h3, h4, ?_, hd2, hd3⟩
  -- resolving the names written for the vertices gives back their indices
  rw [List.map_map]
  simpa [Function.comp_def, idxOf_nameAt names hlen hnd] using hd1

/-- **a firing script through a TXT file, end to end**: only the non-zero firings are written; the script
    comes back exactly -/
theorem txt_script_object_roundtrip (G : Graph n) (hG : G.WF) (sc : Fin n → Int) (names : List Txt.Str)
    (hlen : names.length = n) (hnd : names.Nodup) (hok : ∀ f ∈ names, Txt.nameOK f = true) :
    ∃ es recs G' t, Txt.readScript (Txt.writeText (Txt.writeScript names
        (namedEdges G fun v => names[v.1]'(hlen ▸ v.2))
        ((List.finRange n).map fun v => (names[v.1]'(hlen ▸ v.2), sc v)))) = some (names, es, recs) ∧
      Graph.new n false (resolveEdges names es) = .ok G' ∧ G'.adj = G.adj ∧
      (scriptNew (recs.map fun r => (names.idxOf r.1, r.2)) : Except Unit (Vec Int n)) = .ok t ∧ t.get = sc := by
  obtain ⟨G', h1, h2, -, -⟩ := graph_of_namedEdges G names hlen hG hnd
  obtain ⟨t, ht1, ht2⟩ := script_dict_roundtrip sc ((List.finRange n).filter fun v => sc v != 0)
    ((List.nodup_finRange n).filter _) fun w hw => by simpa using hw
  refine ⟨_, _, G', t, txt_script_file_roundtrip names _ _ hok (namedEdges_ok G names hlen hok)
    (List.forall_mem_map.mpr fun v _ => nameAt_ok names hlen hok v) ?_, h1, h2, ?_, ht2⟩
  · rw [List.map_map]
    exact (List.nodup_finRange n).map (nameAt_injective names hlen hnd)
  · simpa [List.filter_map, Function.comp_def, idxOf_nameAt names hlen hnd] using ht1

/-- **an orientation through a TXT file, end to end**: every edge state and both counters -/
theorem txt_orientation_object_roundtrip (G : Graph n) (hG : G.WF) (o : Orient n) (hinv : Orient.Inv G o)
    (ps : List (Fin n × Fin n)) (hpnd : ps.Nodup) (hps : ∀ a b, (a, b) ∈ ps ↔ 0 < G.adj a b ∧ o.st a b = 1)
    (names : List Txt.Str) (hlen : names.length = n) (hnd : names.Nodup) (hok : ∀ f ∈ names, Txt.nameOK f = true) :
    ∃ es recs G' o', Txt.readOrientation (Txt.writeText (Txt.writeOrientation names
        (namedEdges G fun v => names[v.1]'(hlen ▸ v.2))
        (ps.map fun p => (names[p.1.1]'(hlen ▸ p.1.2), names[p.2.1]'(hlen ▸ p.2.2))))) = some (names, es, recs) ∧
      Graph.new n false (resolveEdges names es) = .ok G' ∧ G'.adj = G.adj ∧
      Orient.new G (recs.map fun r => (names.idxOf r.1, names.idxOf r.2)) = .ok o' ∧
      (∀ x y, o'.st x y = o.st x y) ∧ (∀ v, o'.inD v = o.inD v) ∧ (∀ v, o'.outD v = o.outD v) := by
  obtain ⟨G', h1, h2, -, -⟩ := graph_of_namedEdges G names hlen hG hnd
  obtain ⟨o', ho1, ho2, ho3, ho4⟩ := orientation_dict_roundtrip G hG o hinv ps hpnd hps
  refine ⟨_, _, G', o', txt_orientation_file_roundtrip names _ _ hok (namedEdges_ok G names hlen hok)
    (List.forall_mem_map.mpr fun p _ => ⟨nameAt_ok names hlen hok p.1, nameAt_ok names hlen hok p.2⟩),
    h1, h2, ?_, ho2, ho3, ho4⟩
  rw [List.map_map]
  simpa [Function.comp_def, idxOf_nameAt names hlen hnd] using ho1

end CF.C15
