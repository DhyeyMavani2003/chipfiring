import ChipFiring.Theory.LeastAction
/-
  C14 — Greedy solver: success carries a valid script; failure only if unwinnable or capped.
  `greedy G vorder D = (success, final divisor, script)`; `vorder`, any list containing every vertex, is
  the iteration order of the vertex set (hash-seed dependent in the code).
-/
namespace CF.C14
open CF Finset
variable {n : Nat}

/-- the returned script, applied through the Laplacian to the original divisor, gives the effective divisor
    the solver ended on -/
theorem success_certificate (G : Graph n) (hG : G.WF) (vorder : List (Fin n)) (hcov : ∀ v, v ∈ vorder)
    (D : Fin n → Int) (h : (greedy G vorder D).1 = true) :
    lapApply G D (greedy G vorder D).2.2.get = (greedy G vorder D).2.1.get ∧
    Eff (greedy G vorder D).2.1.get ∧ Winnable G D := by
  obtain ⟨l, hr⟩ := greedy_run G vorder hcov D
  have h2 := hr.final_eq hG.symm
  refine ⟨?_, hr.eff h, ?_⟩
  · rw [lapApply_eq G hG, hr.script_eq, h2]
  · exact ⟨_, ⟨negCount l, h2⟩, hr.eff h⟩

/-- every way of clearing the debt by borrowing needs more than the documented budget of 10·|V| moves
    (none exists when the divisor is unwinnable) -/
theorem failure_only_if_unwinnable_or_capped (G : Graph n) (hG : G.WF) (vorder : List (Fin n))
    (hcov : ∀ v, v ∈ vorder) (D : Fin n → Int) (h : (greedy G vorder D).1 = false) :
    ∀ σ : Fin n → Int, (∀ v, 0 ≤ σ v) → Eff (applyScript G D (fun w => - σ w)) → (10 * n : Int) < ∑ v, σ v := by
  intro σ hσ hclear
  obtain ⟨l, hr⟩ := greedy_run G vorder hcov D
  obtain ⟨hlen, hne⟩ := hr.capped h
  by_contra hcon
  -- a clearing script that fits the budget would be the script of the run, which did not clear
  rw [hr.final_eq hG.symm, ← least_action_eq G hG.symm D σ hσ hclear l hr.valid (by rw [hlen]; push_cast; omega)] at hne
  exact hne hclear

/-- success, without the visiting order: some clearing script fits the budget -/
theorem greedy_success_iff (G : Graph n) (hG : G.WF) (vo : List (Fin n)) (hcov : ∀ v, v ∈ vo) (D : Fin n → Int) :
    (greedy G vo D).1 = true ↔
      ∃ σ : Fin n → Int, (∀ v, 0 ≤ σ v) ∧ Eff (applyScript G D (fun w => - σ w)) ∧ ∑ v, σ v ≤ 10 * n := by
  constructor
  · intro h
    obtain ⟨l, hr⟩ := greedy_run G vo hcov D
    exact ⟨fun v => l.count v, fun _ => by positivity, hr.final_eq hG.symm ▸ hr.eff h,
      by rw [sum_count]; exact_mod_cast hr.length_le⟩
  · rintro ⟨σ, hσ, hclear, hsum⟩
    by_contra h
    have := failure_only_if_unwinnable_or_capped G hG vo hcov D ((Bool.not_eq_true _).mp h) σ hσ hclear
    omega

/-- success or failure, and the script, whatever order the vertices are visited in -/
theorem order_irrelevant (G : Graph n) (hG : G.WF) (vo vo' : List (Fin n))
    (hcov : ∀ v, v ∈ vo) (hcov' : ∀ v, v ∈ vo') (D : Fin n → Int) :
    (greedy G vo D).1 = (greedy G vo' D).1 ∧
    ((greedy G vo D).1 = true → (greedy G vo D).2.2.get = (greedy G vo' D).2.2.get ∧
                                 (greedy G vo D).2.1.get = (greedy G vo' D).2.1.get) := by
  have hiff := (greedy_success_iff G hG vo hcov D).trans (greedy_success_iff G hG vo' hcov' D).symm
  refine ⟨Bool.eq_iff_iff.mpr hiff, fun hok => ?_⟩
  obtain ⟨l, hr⟩ := greedy_run G vo hcov D
  obtain ⟨l', hr'⟩ := greedy_run G vo' hcov' D
  have h2 := hr.final_eq hG.symm
  have h2' := hr'.final_eq hG.symm
  have he := hr.eff hok
  have he' := hr'.eff (hiff.mp hok)
  rw [h2] at he
  rw [h2'] at he'
  -- each of the two successful runs dominates the other
  have : negCount l = negCount l' := funext fun v => by
    have := least_action G hG.symm D (fun v => (l.count v : Int)) (fun _ => by positivity) he l' hr'.valid v
    have := least_action G hG.symm D (fun v => (l'.count v : Int)) (fun _ => by positivity) he' l hr.valid v
    simp only [negCount]
    omega
  rw [hr.script_eq, hr'.script_eq, h2, h2', this]
  exact ⟨rfl, rfl⟩

/-- so the hypothesis of `failure_only_if_unwinnable_or_capped` can be met: failure on a winnable input
    means the budget was the reason -/
theorem winnable_has_clearing_script (G : Graph n) (D : Fin n → Int) (hn : 0 < n) (h : Winnable G D) :
    ∃ σ : Fin n → Int, (∀ v, 0 ≤ σ v) ∧ Eff (applyScript G D (fun w => - σ w)) := by
  obtain ⟨E, ⟨s, rfl⟩, hE⟩ := h
  obtain ⟨m, -, hm⟩ := Finset.exists_max_image (Finset.univ : Finset (Fin n)) s ⟨⟨0, hn⟩, mem_univ _⟩
  refine ⟨fun v => s m - s v, fun v => by have := hm v (mem_univ v); show 0 ≤ s m - s v; omega, ?_⟩
  have : applyScript G D (fun w => - (s m - s w)) = applyScript G D s := by
    funext w; simp only [applyScript]; congr 1
    apply Finset.sum_congr rfl; intro v _; ring
  rw [this]; exact hE

/-- non-vacuity: on the path 0–1–2, (−1,0,3) is solved with script (−2,−1,0); (−1,0,0) fails -/
example : ∃ G : Graph 3, Graph.new 3 false [(0, 1, 1), (1, 2, 1)] = .ok G ∧
    (greedy G [2, 0, 1] (fun v => [-1, 0, 3].getD v.1 0)).1 = true ∧
    (List.finRange 3).map (greedy G [2, 0, 1] (fun v => [-1, 0, 3].getD v.1 0)).2.2.get = [-2, -1, 0] ∧
    (greedy G [2, 0, 1] (fun v => [-1, 0, 0].getD v.1 0)).1 = false := by
  refine ⟨_, rfl, by decide +kernel, by decide +kernel, by decide +kernel⟩

/-- `play()` asked again on the same solver (fresh budget, divisor and script where the previous call left
    them, e.g. after a capped failure): the script is still a certificate for the ORIGINAL divisor -/
theorem resumed_play_certificate (G : Graph n) (hG : G.WF) (vorder : List (Fin n)) (hcov : ∀ v, v ∈ vorder)
    (D : Fin n → Int)
    (h : (greedyGo G vorder (10 * n) (greedy G vorder D).2.1 (greedy G vorder D).2.2).1 = true) :
    lapApply G D (greedyGo G vorder (10 * n) (greedy G vorder D).2.1 (greedy G vorder D).2.2).2.2.get
      = (greedyGo G vorder (10 * n) (greedy G vorder D).2.1 (greedy G vorder D).2.2).2.1.get ∧
    Eff (greedyGo G vorder (10 * n) (greedy G vorder D).2.1 (greedy G vorder D).2.2).2.1.get ∧ Winnable G D := by
  obtain ⟨l, hr⟩ := greedy_run G vorder hcov D
  obtain ⟨l', hr'⟩ := greedyGo_spec G vorder hcov (10 * n) (greedy G vorder D).2.1 (greedy G vorder D).2.2
  -- the second run continues the first: divisor and script are those of the concatenated runs
  have k2 := hr'.final_eq hG.symm
  rw [hr.final_eq hG.symm, applyScript_add] at k2
  have hs2 : _ = fun v => negCount l v + negCount l' v :=
    hr'.script.trans (by rw [hr.script_eq]; funext v; simp [negCount]; ring)
  refine ⟨?_, hr'.eff h, ?_⟩
  · rw [lapApply_eq G hG, hs2, k2]
  · exact ⟨_, ⟨_, k2⟩, hr'.eff h⟩

end CF.C14
