import ChipFiring.Theory.Moves
/-
  C05 — Chip moves act by the Laplacian, commute, and conserve chips over any history.
-/
namespace CF.C05
open CF Finset
variable {n : Nat}

/-- lending at `v` is `D − L·e_v` -/
theorem lend_is_laplacian_column (G : Graph n) (hG : G.WF) (D : Fin n → Int) (v : Fin n) :
    lend G D v = applyScript G D (chipAt v) ∧
    (lend G D v v = D v - ∑ u, (G.adj v u : Int)) ∧
    (∀ w, w ≠ v → lend G D v w = D w + G.adj v w) := by
  refine ⟨lend_eq G hG.symm D v, ?_, ?_⟩
  · simp [lend, hG.loopless v, rowSum_cast]
  · intro w hw; simp [lend, hw]

theorem borrow_inverse (G : Graph n) (D : Fin n → Int) (v : Fin n) :
    borrow G (lend G D v) v = D ∧ lend G (borrow G D v) v = D :=
  ⟨by funext w; simp only [borrow, lend]; ring, by funext w; simp only [borrow, lend]; ring⟩

/-- for every enumeration of the set -/
theorem set_fire_eq_sequential (G : Graph n) (hG : G.WF) (l : List (Fin n)) (hl : l.Nodup) (D : Fin n → Int) :
    fireSet G (setOf l) D = l.foldl (lend G) D := fireSet_eq_foldl_lend G hG.symm l hl D

theorem sequential_order_irrelevant (G : Graph n) (hG : G.WF) (l l' : List (Fin n)) (hl : l.Nodup)
    (hl' : l'.Nodup) (hp : ∀ v, v ∈ l ↔ v ∈ l') (D : Fin n → Int) :
    l.foldl (lend G) D = l'.foldl (lend G) D := by
  rw [← fireSet_eq_foldl_lend G hG.symm l hl, ← fireSet_eq_foldl_lend G hG.symm l' hl']
  congr 1
  funext v
  simp only [setOf, List.contains_eq_mem, hp v]

theorem fire_all_is_identity (G : Graph n) (hG : G.WF) (D : Fin n → Int) :
    fireSet G (fun _ => true) D = D := by
  rw [fireSet_eq G hG.symm]
  exact applyScript_const G D _ 1 fun v => by simp [indicator]

theorem moves_commute (G : Graph n) (D : Fin n → Int) (v w : Fin n) :
    lend G (lend G D v) w = lend G (lend G D w) v ∧ lend G (borrow G D v) w = borrow G (lend G D w) v :=
  ⟨by funext x; simp only [lend]; ring, by funext x; simp only [lend, borrow]; ring⟩

/-- `CFDivisor.__init__` caches the sum of the degrees it stored -/
theorem constructor_total (entries : List (Nat × Int)) (d : Divisor n) (h : Divisor.new entries = .ok d) :
    d.total = deg d.deg := Divisor.new_total entries d h

/-- any history of lend / borrow / set-fire / transfer, through the divisor or a configuration, refused
    requests included; so the degree stays the total the constructor cached, which no operation rewrites -/
theorem history_conserves (G : Graph n) (hG : G.WF) (q : Option (Fin n)) (entries : List (Nat × Int))
    (d : Divisor n) (h : Divisor.new entries = .ok d) (ops : List DOp) :
    ∀ x ∈ drun G q d.degV ops, deg x.2.1.get = d.total := by
  rw [Divisor.new_total entries d h]
  exact drun_inv (fun _ _ hm hD => (hm.deg_eq hG.symm).trans hD) q ops d.degV rfl

theorem refused_is_identity (G : Graph n) (q : Option (Fin n)) (D : Vec Int n) (o : DOp) (os : List DOp)
    (h : dstep G q D o = .error ()) : drun G q D (o :: os) = (false, D, none) :: drun G q D os := by
  simp only [drun, h]

/-- non-vacuity: the doubled triangle, a lend and a set-fire -/
example : ∃ G : Graph 3, Graph.new 3 false [(0, 1, 2), (1, 2, 2), (0, 2, 2)] = .ok G ∧
    (List.finRange 3).map (lend G (fun _ => 1) 0) = [-3, 3, 3] ∧
    (List.finRange 3).map (fireSet G (setOf [1, 2]) (fun _ => 1)) = [5, -1, -1] := by
  refine ⟨_, rfl, ?_, ?_⟩ <;> decide

end CF.C05
