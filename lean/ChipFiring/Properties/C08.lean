import ChipFiring.Theory.Bfs
import ChipFiring.Theory.Ewd
import ChipFiring.Theory.Termination
/-
  C08 — Debt concentration clears V∖{q}; the burn returns the maximal legal firing set.
-/
namespace CF.C08
open CF Finset
variable {n : Nat}

/-- for any sink q and any sweep order covering V∖{q} -/
theorem send_debt_spec (G : Graph n) (hs : ∀ v w, G.adj v w = G.adj w v) (q : Fin n)
    (order : List (Fin n)) (hcover : ∀ v, v ≠ q → v ∈ order) (fuel : Nat) (D : Fin n → Int) (s : DebtSt n)
    (h : sendDebt G order fuel D = some s) :
    LinEq G D s.D ∧ deg s.D = deg D ∧ ∀ v, v ≠ q → 0 ≤ s.D v := by
  obtain ⟨h1, h2, -⟩ := sendDebt_spec G hs h
  exact ⟨h1, deg_linEq G hs h1, fun v hv => h2 v (hcover v hv)⟩

/-- the unburnt set is the union of all sets avoiding q that can legally fire together -/
theorem burn_is_max_legal (G : Graph n) (q : Fin n) (D : Fin n → Int) :
    (∀ S, Legal G q D S → ∀ v, S v = true → unburnt (burn G q D) v = true) ∧
    ((∃ v, unburnt (burn G q D) v = true) → Legal G q D (unburnt (burn G q D))) := by
  constructor
  · intro S hS v hv
    simp [unburnt, legal_subset_unburnt G q D S hS v hv]
  · rintro ⟨v, hv⟩
    exact burn_unburnt_legal G ⟨v, by simpa [unburnt] using hv⟩

theorem fire_unburnt_debt_free (G : Graph n) (q : Fin n) (D : Fin n → Int)
    (hne : ∃ v, unburnt (burn G q D) v = true) :
    (∀ v, unburnt (burn G q D) v = true → 0 ≤ fireSet G (unburnt (burn G q D)) D v) ∧
    (∀ v, unburnt (burn G q D) v = false → D v ≤ fireSet G (unburnt (burn G q D)) D v) := by
  have hL := (burn_is_max_legal G q D).2 hne
  refine ⟨fun v hv => ?_, fun v hv => le_fireSet_of_not_mem G _ D hv⟩
  have := hL.2.2 v hv
  rw [fireSet_mem G _ D hv]; omega

/-- nothing is left unburnt, for a configuration non-negative off q, exactly when it is superstable -/
theorem burn_empty_iff_superstable (G : Graph n) (q : Fin n) (D : Fin n → Int)
    (hnn : ∀ v, v ≠ q → 0 ≤ D v) :
    (∀ v, unburnt (burn G q D) v = false) ↔ QReduced G q D := by
  have : (∀ v, unburnt (burn G q D) v = false) ↔ ∀ v, (burn G q D).B v = true := by
    simp [unburnt]
  rw [this, burn_all_iff]
  exact ⟨fun h => ⟨hnn, h⟩, fun h => h.2⟩

/-- `outdegree_S(v, burnt)` counts with multiplicity -/
theorem edgesTo_is_weighted_count (G : Graph n) (B : Fin n → Bool) (v : Fin n) :
    edgesTo G B v = ∑ w, if B w then (G.adj v w : Int) else 0 := edgesTo_eq G B v

/-- non-vacuity (the C08 witness): path q–a–b with D = (0,−1,0); concentration must clear b too -/
example : ∃ G : Graph 3, Graph.new 3 false [(0, 1, 1), (1, 2, 1)] = .ok G ∧
    ∃ s, sendDebt G (debtOrder G (fun _ => []) 0) 1000 (fun v => [0, -1, 0].getD v.1 0) = some s ∧
      (List.finRange 3).map s.D = [-1, 0, 0] := by
  refine ⟨_, rfl, _, rfl, by decide⟩

/-- on a connected graph, for ANY sink q and whatever the adjacency orders, debt concentration along the
    BFS order from q also returns -/
theorem send_debt_total (G : Graph n) (hG : G.WF) (hc : G.Connected) (hint : Fin n → List (Fin n))
    (q : Fin n) (D : Fin n → Int) :
    ∃ F, ∀ fuel, F ≤ fuel → ∃ s, sendDebt G (debtOrder G hint q) fuel D = some s ∧
      LinEq G D s.D ∧ deg s.D = deg D ∧ ∀ v, v ≠ q → 0 ≤ s.D v := by
  obtain ⟨F, hF⟩ := sendDebt_terminates G hG.symm hc q (debtOrder G hint q) (debtOrder_not_mem G hint q) D
  refine ⟨F, fun fuel hf => ?_⟩
  obtain ⟨s, hs⟩ := hF fuel hf
  exact ⟨s, hs, send_debt_spec G hG.symm q _ (cover_of_connected G hG hc hint q) fuel D s hs⟩

end CF.C08
