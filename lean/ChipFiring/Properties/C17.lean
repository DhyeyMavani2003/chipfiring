import ChipFiring.Theory.RankTheory
import Mathlib.Logic.Equiv.Defs
import Mathlib.Algebra.BigOperators.Group.Finset.Basic
/-
  C17 — Answers depend only on the mathematical input, not on names, order or hash seed.
  Order/seed: the answers do not depend on the adjacency order `hint` nor on the fuel (the iteration order
  of the vertex set is not an input of `sink`, which like /repo breaks ties by the vertex name).
  Renaming: every specification notion is carried along by a relabelling σ; no statement here is about
  the outputs of `ewd`, `rank` or `computeGonality` under a relabelling.
-/
namespace CF.C17
open CF Finset
variable {n : Nat}

theorem ewd_orders_irrelevant (G : Graph n) (hs : ∀ v w, G.adj v w = G.adj w v)
    (hint hint' : Fin n → List (Fin n)) (fuel fuel' : Nat) (Dv : Divisor n) (r r' : EwdOut n)
    (hcover : ∀ q v, v ≠ q → v ∈ debtOrder G hint q) (hcover' : ∀ q v, v ≠ q → v ∈ debtOrder G hint' q)
    (h : ewd G hint fuel Dv false = some (.ok r)) (h' : ewd G hint' fuel' Dv false = some (.ok r')) :
    r.q = r'.q ∧ r.verdict = r'.verdict ∧ ∃ red red', r.red = some red ∧ r'.red = some red' ∧ red.D = red'.D := by
  obtain ⟨q, red, e⟩ := ewd_plain G hs h
  obtain ⟨q', red', e'⟩ := ewd_plain G hs h'
  obtain rfl : q = q' := Option.some.inj (e.sink_eq.symm.trans e'.sink_eq)
  have hD : red.D = red'.D := qreduced_unique G q _ _ (e.qreduced (hcover q)) (e'.qreduced (hcover' q))
    (e.linEq.symm.trans e'.linEq)
  exact ⟨by rw [e.q_eq, e'.q_eq], by rw [e.verdict_eq, e'.verdict_eq, hD], red, red', e.red_eq, e'.red_eq, hD⟩

/-- `G'` is `G` with every vertex `v` renamed `σ v` -/
def Renames (σ : Fin n ≃ Fin n) (G G' : Graph n) : Prop := ∀ u v, G'.adj (σ u) (σ v) = G.adj u v

def push {α : Type} (σ : Fin n ≃ Fin n) (f : Fin n → α) : Fin n → α := fun v => f (σ.symm v)

theorem Renames.adj {σ : Fin n ≃ Fin n} {G G' : Graph n} (hR : Renames σ G G') (v w : Fin n) :
    G'.adj v w = G.adj (σ.symm v) (σ.symm w) := by
  simpa using hR (σ.symm v) (σ.symm w)

/-! `push σ` is the bijection `σ.arrowCongr (Equiv.refl _)` of divisors (scripts, sets): a quantifier over
    them may be re-indexed -/

theorem push_inj {α : Type} (σ : Fin n ≃ Fin n) {f g : Fin n → α} : push σ f = push σ g ↔ f = g :=
  (σ.arrowCongr (Equiv.refl α)).injective.eq_iff

theorem forall_push {α : Type} (σ : Fin n ≃ Fin n) {p : (Fin n → α) → Prop} :
    (∀ f, p f) ↔ ∀ f, p (push σ f) :=
  ((σ.arrowCongr (Equiv.refl α)).forall_congr_right (q := p)).symm

theorem exists_push {α : Type} (σ : Fin n ≃ Fin n) {p : (Fin n → α) → Prop} :
    (∃ f, p f) ↔ ∃ f, p (push σ f) :=
  ((σ.arrowCongr (Equiv.refl α)).exists_congr_right (q := p)).symm

theorem applyScript_push (σ : Fin n ≃ Fin n) (G G' : Graph n) (hR : Renames σ G G') (D s : Fin n → Int) :
    applyScript G' (push σ D) (push σ s) = push σ (applyScript G D s) := by
  funext v
  simp only [applyScript, push]
  rw [← Equiv.sum_comp σ]
  simp only [hR.adj, Equiv.symm_apply_apply]

theorem outdeg_push (σ : Fin n ≃ Fin n) (G G' : Graph n) (hR : Renames σ G G') (S : Fin n → Bool) (v : Fin n) :
    outdeg G' (push σ S) (σ v) = outdeg G S v := by
  unfold outdeg
  rw [← Equiv.sum_comp σ]
  simp only [push, hR.adj, Equiv.symm_apply_apply]

theorem eff_push (σ : Fin n ≃ Fin n) (D : Fin n → Int) : Eff (push σ D) ↔ Eff D :=
  ⟨fun h v => by have := h (σ v); simpa [push] using this, fun h v => h _⟩

theorem deg_push (σ : Fin n ≃ Fin n) (D : Fin n → Int) : deg (push σ D) = deg D := by
  unfold deg push
  exact Equiv.sum_comp σ.symm D

theorem push_sub (σ : Fin n ≃ Fin n) (D E : Fin n → Int) :
    push σ (fun v => D v - E v) = fun v => push σ D v - push σ E v := rfl

theorem chipAt_push (σ : Fin n ≃ Fin n) (v : Fin n) : chipAt (σ v) = push σ (chipAt v) := by
  funext w; simp [chipAt, push, Equiv.eq_symm_apply, eq_comm]

theorem linEq_perm (σ : Fin n ≃ Fin n) (G G' : Graph n) (hR : Renames σ G G') (D D' : Fin n → Int) :
    LinEq G D D' ↔ LinEq G' (push σ D) (push σ D') := by
  unfold LinEq
  rw [exists_push σ (p := fun s => push σ D' = applyScript G' (push σ D) s)]
  simp only [applyScript_push σ G G' hR, push_inj]

theorem winnable_perm (σ : Fin n ≃ Fin n) (G G' : Graph n) (hR : Renames σ G G') (D : Fin n → Int) :
    Winnable G D ↔ Winnable G' (push σ D) := by
  unfold Winnable
  rw [exists_push σ (p := fun E => LinEq G' (push σ D) E ∧ Eff E)]
  simp only [← linEq_perm σ G G' hR, eff_push]

theorem rank_perm (σ : Fin n ≃ Fin n) (G G' : Graph n) (hR : Renames σ G G') (D : Fin n → Int) (r : Int) :
    IsRank G D r ↔ IsRank G' (push σ D) r := by
  unfold IsRank
  rw [forall_push σ (p := fun E => Eff E → deg E = r → Winnable G' fun v => push σ D v - E v),
    exists_push σ (p := fun E => Eff E ∧ deg E = r + 1 ∧ ¬ Winnable G' fun v => push σ D v - E v)]
  simp only [eff_push, deg_push, ← push_sub, ← winnable_perm σ G G' hR]

theorem legal_perm (σ : Fin n ≃ Fin n) (G G' : Graph n) (hR : Renames σ G G') (q : Fin n) (D : Fin n → Int)
    (S : Fin n → Bool) : Legal G q D S ↔ Legal G' (σ q) (push σ D) (push σ S) := by
  unfold Legal
  rw [← σ.exists_congr_right (q := fun v => push σ S v = true),
    ← σ.forall_congr_right (q := fun v => push σ S v = true → outdeg G' (push σ S) v ≤ push σ D v)]
  simp only [outdeg_push σ G G' hR, push, Equiv.symm_apply_apply]

theorem qreduced_perm (σ : Fin n ≃ Fin n) (G G' : Graph n) (hR : Renames σ G G') (q : Fin n) (D : Fin n → Int) :
    QReduced G q D ↔ QReduced G' (σ q) (push σ D) := by
  unfold QReduced
  rw [forall_push σ (p := fun S => ¬ Legal G' (σ q) (push σ D) S),
    ← σ.forall_congr_right (q := fun v => v ≠ σ q → 0 ≤ push σ D v)]
  simp only [← legal_perm σ G G' hR, push, Equiv.symm_apply_apply, ne_eq, EmbeddingLike.apply_eq_iff_eq]

/-- the reduced divisor of the renamed input is the renamed reduced divisor -/
theorem reduced_divisor_perm (σ : Fin n ≃ Fin n) (G G' : Graph n) (hR : Renames σ G G') (q : Fin n)
    (D Dstar X : Fin n → Int) (h1 : LinEq G D Dstar) (h2 : QReduced G q Dstar)
    (h3 : LinEq G' (push σ D) X) (h4 : QReduced G' (σ q) X) : X = push σ Dstar := by
  have a := (linEq_perm σ G G' hR D Dstar).mp h1
  have b := (qreduced_perm σ G G' hR q Dstar).mp h2
  exact (qreduced_unique G' (σ q) _ _ b h4 (a.symm.trans h3)).symm

/-- only when the minimum-degree vertex is unique -/
theorem sink_perm (σ : Fin n ≃ Fin n) (D : Fin n → Int) (q : Fin n) (hq : ∀ v, v ≠ q → D q < D v)
    (q' : Fin n) (h : sink (push σ D) = some q') : q' = σ q := by
  have hmin := sink_min h (σ q)
  simp only [push, Equiv.symm_apply_apply] at hmin
  by_contra hne
  have : σ.symm q' ≠ q := fun e => hne (by rw [← e]; simp)
  have := hq _ this
  omega

theorem rankGeOne_perm (σ : Fin n ≃ Fin n) (G G' : Graph n) (hR : Renames σ G G') (D : Fin n → Int) :
    RankGeOne G D ↔ RankGeOne G' (push σ D) := by
  unfold RankGeOne
  refine Iff.trans ?_ (σ.forall_congr_right (q := fun v => Winnable G' fun w => push σ D w - chipAt v w))
  simp only [chipAt_push, ← push_sub, ← winnable_perm σ G G' hR]

theorem gonality_perm (σ : Fin n ≃ Fin n) (G G' : Graph n) (hR : Renames σ G G') (k : Nat) :
    IsGonality G k ↔ IsGonality G' k := by
  unfold IsGonality
  rw [exists_push σ (p := fun D => Eff D ∧ deg D = k ∧ RankGeOne G' D),
    forall_push σ (p := fun D => Eff D → deg D < k → ¬ RankGeOne G' D)]
  simp only [eff_push, deg_push, ← rankGeOne_perm σ G G' hR]

end CF.C17
