import ChipFiring.Theory.RankTheory
/-
  C16 — Analyses never change the game they were handed.
  The model is functional: a call can only "change" what it returns as the new state of an argument, and
  the graph is never part of a returned state.  EWD and the Dhar runs work in place: the post-state of the
  caller's divisor is the reduced divisor (`is_winnable`, `q_reduction` and `rank` go through EWD).
-/
namespace CF.C16
open CF
variable {n : Nat}

theorem graph_never_written (G : Graph n) (v : Nat) :
    gapply G (.valence v) = G ∧ gapply G (.remove v) = G := ⟨rfl, rfl⟩

/-- either mode; untouched on the shortcut exits, where no reduced divisor is returned -/
theorem ewd_post_state (G : Graph n) (hs : ∀ v w, G.adj v w = G.adj w v) (hint : Fin n → List (Fin n))
    (fuel : Nat) (Dv : Divisor n) (opt : Bool) (r : EwdOut n) (h : ewd G hint fuel Dv opt = some (.ok r)) :
    r.red = none ∨ ∃ red, r.red = some red ∧ LinEq G Dv.deg red.D ∧ deg red.D = deg Dv.deg := by
  cases hr : r.red with
  | none => exact Or.inl rfl
  | some red =>
    obtain ⟨q, e⟩ := ewd_red G hs h hr
    exact Or.inr ⟨red, rfl, e.linEq, e.deg_eq hs⟩

/-- Dhar runs: debt concentration and a legal set-firing -/
theorem dhar_post_state (G : Graph n) (hs : ∀ v w, G.adj v w = G.adj w v) (order : List (Fin n)) (fuel : Nat)
    (D : Fin n → Int) (s : DebtSt n) (S : Fin n → Bool) (h : sendDebt G order fuel D = some s) :
    LinEq G D s.D ∧ deg s.D = deg D ∧ LinEq G D (fireSet G S s.D) ∧ deg (fireSet G S s.D) = deg D := by
  obtain ⟨h1, -⟩ := sendDebt_spec G hs h
  have h2 := LinEq.trans h1 (fireSet_linEq G hs S s.D)
  exact ⟨h1, deg_linEq G hs h1, h2, deg_linEq G hs h2⟩

/-- no move rewrites the cached total; after an in-place reduction it is still the sum of the degrees -/
theorem cached_total_still_right (G : Graph n) (hs : ∀ v w, G.adj v w = G.adj w v) (Dv : Divisor n)
    (htot : Dv.total = deg Dv.deg) (D' : Fin n → Int) (h : LinEq G Dv.deg D') : Dv.total = deg D' := by
  rw [htot, deg_linEq G hs h]

end CF.C16
