import ChipFiring.Theory.RankTheory
import ChipFiring.Theory.RiemannRoch
import ChipFiring.Theory.GraphInv
/-
  C03 — Rank equals the Baker–Norine rank in both calculation modes.
  `IsRank` is the specification, `rank` the model of `CFRank._calculate_rank`: in the band g ≤ deg D ≤ 2g − 2
  the optimized mode tests `K − D` and adds deg D + 1 − g to its rank.  The worker pool only changes the
  order in which the tests of one k are consumed; the model takes "all of them say winnable" (`allWinnable`),
  which is what the pool path and the sequential fallback both compute.
-/
namespace CF.C03
open CF Finset
variable {n : Nat}

theorem rank_unique (G : Graph n) (hn : 0 < n) (D : Fin n → Int) (r r' : Int)
    (h : IsRank G D r) (h' : IsRank G D r') : r = r' := isRank_functional G hn D r r' h h'

theorem rank_linEq_invariant (G : Graph n) (hn : 0 < n) {D D' : Fin n → Int} (h : LinEq G D D') (r : Int) :
    IsRank G D r ↔ IsRank G D' r := isRank_congr G h r

/-- why the first k with an unwinnable D − E ends the search -/
theorem good_degrees_downward_closed (G : Graph n) (hn : 0 < n) (D : Fin n → Int) {j k : Nat} (hjk : j ≤ k)
    (h : AllWin G D k) : AllWin G D j := allWin_mono G hn D hjk h

/-- plain mode -/
theorem rank_plain_exact (G : Graph n) (hg : Good G) (fuel : Nat) (Dv : Divisor n) (r : Int)
    (h : rank G fuel Dv false = some (.ok r)) : IsRank G Dv.deg r := by
  obtain ⟨out, he, hcase⟩ := rank_ok G h
  refine rank_common G hg he (hcase.imp_right fun ⟨hv, red, hr, hb⟩ => ⟨hv, red, hr, ?_⟩)
  cases hb with
  | high hopt => cases hopt
  | dual hopt => cases hopt
  | loop _ hl => exact hl

/-- optimized mode when the search runs on D itself.  The hypothesis `hlow` asks deg(K − D*) ≥ deg D of
    every record `red`, not of the one `ewd` returns, and no input with a vertex meets it: the
    statement that covers the optimized mode is `rank_optimized_exact` -/
theorem rank_optimized_exact_low (G : Graph n) (hg : Good G) (fuel : Nat) (Dv : Divisor n) (r : Int)
    (hnothigh : Dv.total ≤ 2 * G.genus - 2)
    (hlow : ∀ red : Reduced n, ¬ sumZ (fun v => canonicalOf G v - red.D v) < Dv.total)
    (h : rank G fuel Dv true = some (.ok r)) : IsRank G Dv.deg r := by
  obtain ⟨out, he, hcase⟩ := rank_ok G h
  refine rank_common G hg he (hcase.imp_right fun ⟨hv, red, hr, hb⟩ => ⟨hv, red, hr, ?_⟩)
  cases hb with
  | high _ hdeg => omega
  | dual _ _ hband => exact absurd hband (hlow red)
  | loop _ hl => exact hl

/-- optimized mode in the band where the search is moved to K − D: the value is r(K − D) + deg D + 1 − g;
    that this is r(D) is `riemann_roch`, used in `rank_optimized_exact` -/
theorem rank_optimized_band_partial (G : Graph n) (hg : Good G) (fuel : Nat) (Dv : Divisor n) (r : Int)
    (out : EwdOut n) (red : Reduced n)
    (he : ewd G (fun _ => []) fuel Dv false = some (.ok out)) (hver : out.verdict = true) (hr : out.red = some red)
    (hnothigh : Dv.total ≤ 2 * G.genus - 2)
    (hband : sumZ (fun v => canonicalOf G v - red.D v) < Dv.total)
    (h : rank G fuel Dv true = some (.ok r)) :
    IsRank G (fun v => canonicalOf G v - red.D v) (r - (Dv.total + 1 - G.genus)) := by
  obtain ⟨out', he', hcase⟩ := rank_ok G h
  obtain rfl : out = out' := by simpa using he.symm.trans he'
  rcases hcase with ⟨hv, -⟩ | ⟨-, red', hr', hb⟩
  · rw [hver] at hv
    cases hv
  · obtain rfl : red = red' := by simpa using hr.symm.trans hr'
    cases hb with
    | high _ hdeg => omega
    | dual _ _ _ b x hb hx hr =>
      rw [hr, add_sub_cancel_right]
      exact isRank_of_plainRank G hg fuel fuel _ b (winnablePlain_exact G hg fuel _ b hb) x hx
    | loop hcase =>
      rcases hcase with hopt | ⟨-, hnb⟩
      · cases hopt
      · exact absurd hband hnb

def okVal : Option (Except Unit Int) → Option Int
  | some (.ok r) => some r
  | _ => none

/-- non-vacuity: doubled triangle (g = 4), D = (2,3,1) of degree 6 = 2g − 2: both modes return 2 -/
example : ∃ G : Graph 3, Graph.new 3 false [(0, 1, 2), (1, 2, 2), (0, 2, 2)] = .ok G ∧
    okVal (rank G 1000 (Divisor.ofFn fun v => [2, 3, 1].getD v.1 0) false) = some 2 ∧
    okVal (rank G 1000 (Divisor.ofFn fun v => [2, 3, 1].getD v.1 0) true) = some 2 := by
  refine ⟨_, rfl, by decide +kernel, by decide +kernel⟩

/-- on a connected graph the standing hypotheses `Good G` hold, whatever the adjacency orders -/
theorem rank_plain_exact_connected (G : Graph n) (hG : G.WF) (hc : G.Connected) (hn : 0 < n) (fuel : Nat)
    (Dv : Divisor n) (r : Int) (h : rank G fuel Dv false = some (.ok r)) : IsRank G Dv.deg r :=
  rank_plain_exact G (good_of_connected G hG hc hn) fuel Dv r h

/-- Riemann–Roch for graphs (Baker–Norine) -/
theorem riemann_roch (G : Graph n) (hG : G.WF) (hc : G.Connected) (hn : 0 < n) (D : Fin n → Int) (r r' : Int)
    (h : IsRank G D r) (h' : IsRank G (fun v => canonical G v - D v) r') :
    r - r' = deg D + 1 - G.genus := CF.riemann_roch G hG hc hn D r r' h h'

/-- `IsRank` is total -/
theorem rank_exists (G : Graph n) (hG : G.WF) (hn : 0 < n) (D : Fin n → Int) : ∃ r, IsRank G D r :=
  exists_isRank G hG hn D

theorem rank_above_canonical_degree (G : Graph n) (hG : G.WF) (hc : G.Connected) (hn : 0 < n) (D : Fin n → Int)
    (h : 2 * G.genus - 2 < deg D) : IsRank G D (deg D - G.genus) := rank_high_degree G hG hc hn D h

/-- optimized mode, every branch, on a divisor whose cached total is its degree (C05): the `deg > 2g − 2`
    shortcut and the switch to K − D are justified by Riemann–Roch -/
theorem rank_optimized_exact (G : Graph n) (hg : Good G) (fuel : Nat) (Dv : Divisor n) (r : Int)
    (htot : Dv.total = deg Dv.deg)
    (h : rank G fuel Dv true = some (.ok r)) : IsRank G Dv.deg r := by
  obtain ⟨out, he, hcase⟩ := rank_ok G h
  rcases hcase with hc | ⟨hv, red, hr, hway⟩
  · exact rank_common G hg he (Or.inl hc)
  cases hway with
  | high _ hh hval =>
    rw [hval]
    rw [htot] at hh ⊢
    exact rank_high_degree G hg.wf hg.conn hg.pos Dv.deg hh
  | dual _ hnh hband =>
    -- the value is r(K − D*) + deg D + 1 − g, which Riemann–Roch carries over to D* ~ D
    have hK := rank_optimized_band_partial G hg fuel Dv r out red he hv hr hnh hband h
    obtain ⟨q, hI⟩ := ewd_red G hg.wf.symm he hr
    rw [canonicalOf_eq G hg.wf] at hK
    have := isRank_of_dual G hg.wf hg.conn hg.pos red.D _ hK
    rw [hI.deg_eq hg.wf.symm, ← htot, sub_add_cancel] at this
    rwa [isRank_congr G hI.linEq]
  | loop _ hl => exact rank_common G hg he (Or.inr ⟨hv, red, hr, hl⟩)

theorem rank_exact (G : Graph n) (hg : Good G) (fuel : Nat) (Dv : Divisor n) (opt : Bool) (r : Int)
    (htot : Dv.total = deg Dv.deg) (h : rank G fuel Dv opt = some (.ok r)) : IsRank G Dv.deg r := by
  cases opt
  · exact rank_plain_exact G hg fuel Dv r h
  · exact rank_optimized_exact G hg fuel Dv r htot h

theorem rank_modes_agree (G : Graph n) (hg : Good G) (fuel fuel' : Nat) (Dv : Divisor n) (r r' : Int)
    (htot : Dv.total = deg Dv.deg)
    (h : rank G fuel Dv false = some (.ok r)) (h' : rank G fuel' Dv true = some (.ok r')) : r = r' :=
  isRank_functional G hg.pos Dv.deg r r' (rank_plain_exact G hg fuel Dv r h) (rank_optimized_exact G hg fuel' Dv r' htot h')

theorem computed_riemann_roch (G : Graph n) (hg : Good G) (fuel fuel' : Nat) (opt opt' : Bool) (Dv KD : Divisor n) (r r' : Int)
    (htot : Dv.total = deg Dv.deg) (htot' : KD.total = deg KD.deg)
    (hK : ∀ v, KD.deg v = canonicalOf G v - Dv.deg v)
    (h : rank G fuel Dv opt = some (.ok r)) (h' : rank G fuel' KD opt' = some (.ok r')) :
    r - r' = Dv.total + 1 - G.genus := by
  have e1 := rank_exact G hg fuel Dv opt r htot h
  have e2 := rank_exact G hg fuel' KD opt' r' htot' h'
  have : KD.deg = fun v => canonical G v - Dv.deg v := by
    funext v; rw [hK v, canonicalOf_eq G hg.wf]
  rw [this] at e2
  rw [htot]
  exact CF.riemann_roch G hg.wf hg.conn hg.pos Dv.deg r r' e1 e2

end CF.C03
