import ChipFiring.Theory.Serial
import ChipFiring.Theory.GraphInv
/-
  C13 — Graph bookkeeping (valences, edge total, genus) consistent over any history.
-/
namespace CF.C13
open CF Finset
variable {n : Nat}

theorem constructed_wf {dup : Bool} {es : List (Nat × Nat × Int)} {G : Graph n}
    (h : Graph.new n dup es = .ok G) : G.WF := Graph.new_wf h

/-- any history of `add_edge` / `add_edges` / queries, valid or refused -/
theorem history_invariant (G : Graph n) (hG : G.WF) (ops : List GOp) : (ops.foldl gapply G).WF :=
  ops.foldlRecOn gapply hG fun _ h o _ => gapply_wf h o

theorem valence_is_row_sum {G : Graph n} (hG : G.WF) (v : Fin n) : G.val v = ∑ w, G.adj v w := hG.val_eq v
theorem edge_total_is_half_valences {G : Graph n} (hG : G.WF) : 2 * G.total = ∑ v, G.val v := hG.total_eq
theorem genus_is_E_minus_V_plus_one {G : Graph n} (hG : G.WF) :
    G.genus = (∑ v, ∑ w, (G.adj v w : Int)) / 2 - n + 1 := genus_formula hG

/-- `add_edge(a, b, k)`, accepted -/
theorem accepted_add {G G' : Graph n} {a b : Nat} {k : Int} (h : G.addEdge a b k = .ok G') :
    ∃ (a' b' : Fin n), a'.1 = a ∧ b'.1 = b ∧ a' ≠ b' ∧ 0 < k ∧
      ∀ x y, (G'.adj x y : Int) = G.adj x y + if (x = a' ∧ y = b') ∨ (x = b' ∧ y = a') then k else 0 := by
  obtain ⟨a', b', m, ha, hb, hab, hm, hk, rfl⟩ := Graph.addEdge_ok h
  refine ⟨a', b', ha, hb, hab, by omega, ?_⟩
  intro x y
  simp only [Graph.adj_ofFns]
  split <;> simp [hk]

/-! loops, non-positive multiplicities and unknown endpoints are refused -/

theorem refuses_loop (G : Graph n) (a : Nat) (k : Int) : G.addEdge a a k = .error () := by
  simp [Graph.addEdge]
theorem refuses_nonpositive (G : Graph n) (a b : Nat) (k : Int) (hk : k ≤ 0) : G.addEdge a b k = .error () := by
  unfold Graph.addEdge
  rw [if_pos hk]
  exact ite_self _
theorem refuses_unknown (G : Graph n) (a b : Nat) (k : Int) (h : n ≤ a ∨ n ≤ b) : G.addEdge a b k = .error () := by
  unfold Graph.addEdge
  split; · rfl
  split; · rfl
  rcases h with h | h <;> simp [ref?_eq_none.mpr h]

theorem refused_add_unchanged (G : Graph n) (a b : Nat) (k : Int) (h : G.addEdge a b k = .error ()) :
    gapply G (.add a b k) = G := by
  simp [gapply, h]

/-- `add_edges` is per edge: it stops at the first refused edge and keeps the accepted prefix -/
theorem addEdges_prefix (G : Graph n) (es : List (Nat × Nat × Int)) :
    ∃ pre suf, es = pre ++ suf ∧ (G.addEdges pre) = ((G.addEdges es).1, true) ∧
      ((G.addEdges es).2 = true ↔ suf = []) ∧
      (∀ e, suf.head? = some e → (G.addEdges es).1.addEdge e.1 e.2.1 e.2.2 = .error ()) := by
  fun_induction Graph.addEdges G es with
  | case1 G => exact ⟨[], [], rfl, rfl, by simp, by simp⟩
  | case2 G a b k es G' h ih =>
    obtain ⟨pre, suf, h1, h2, h3, h4⟩ := ih
    exact ⟨(a, b, k) :: pre, suf, by rw [h1]; rfl, by rw [Graph.addEdges_cons_ok pre h]; exact h2, h3, h4⟩
  | case3 G a b k es u h =>
    refine ⟨[], (a, b, k) :: es, rfl, rfl, by simp, fun e he => ?_⟩
    simp only [List.head?_cons, Option.some.injEq] at he
    subst he
    exact h

/-! removing a vertex builds a well-formed graph and never touches the original -/

theorem removeVertex_wf (G : Graph n) (v : Fin n) : (removeVertex G v).WF := CF.removeVertex_wf G v
theorem removeVertex_pure (G : Graph n) (v : Nat) : gapply G (.remove v) = G := rfl

/-- non-vacuity: a triangle with a doubled edge built from repeated pairs in both endpoint orders -/
example : ∃ G : Graph 3, Graph.new 3 false [(0, 1, 1), (1, 0, 1), (1, 2, 1), (2, 0, 1)] = .ok G ∧
    G.adj 0 1 = 2 ∧ G.val 1 = 3 ∧ G.total = 4 ∧ G.genus = 2 := by
  refine ⟨_, rfl, ?_, ?_, ?_, ?_⟩ <;> decide

/-- `remove_vertex(v)`: the induced multigraph on the remaining vertices -/
theorem remove_vertex_is_induced (G : Graph n) (hG : G.WF) (v x y : Fin n) :
    (removeVertex G v).adj x y = if x = v ∨ y = v then 0 else G.adj x y := removeVertex_adj G hG v x y

theorem remove_vertex_valences (G : Graph n) (hG : G.WF) (v x : Fin n) :
    (removeVertex G v).val x = ∑ y, (if x = v ∨ y = v then 0 else G.adj x y) := by
  rw [(removeVertex_wf G v).val_eq x]
  exact Finset.sum_congr rfl fun y _ => removeVertex_adj G hG v x y

end CF.C13
