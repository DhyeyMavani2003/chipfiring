import ChipFiring.Theory.Ewd
import ChipFiring.Model.Elements
/-
  C18 — Visualisation recording does not perturb results; drawn elements mirror objects.
  Recording is modelled as the extra output `tr` of `ewd`, the divisor snapshots the recorder would take.
-/
namespace CF.C18
open CF Finset
variable {n : Nat}

/-- the recorder is not an input of the model's `ewd`; the statement only says that `ewd` is a function -/
theorem recording_does_not_perturb (G : Graph n) (hint : Fin n → List (Fin n)) (fuel : Nat) (Dv : Divisor n)
    (opt : Bool) (r r' : EwdOut n) (h : ewd G hint fuel Dv opt = some (.ok r))
    (h' : ewd G hint fuel Dv opt = some (.ok r')) : r = r' := by
  rw [h] at h'; injection h' with h'; injection h' with h'

/-- every snapshot is in the class of the input; the last one is the returned divisor -/
theorem trace_snapshots (G : Graph n) (hs : ∀ v w, G.adj v w = G.adj w v) (hint : Fin n → List (Fin n))
    (fuel : Nat) (Dv : Divisor n) (opt : Bool) (r : EwdOut n) (h : ewd G hint fuel Dv opt = some (.ok r)) :
    (∀ x ∈ r.tr, LinEq G Dv.deg x.get) ∧ (∀ red, r.red = some red → r.tr.getLast? = some red.DV) := by
  have same : ∀ x : Vec Int n, x = Dv.degV → LinEq G Dv.deg x.get := fun x e => e ▸ LinEq.refl G _
  have pre : ∀ x ∈ ewdPre Dv opt, LinEq G Dv.deg x.get := fun x hx =>
    same x (by cases opt <;> simpa [ewdPre] using hx)
  constructor
  · rcases ewd_ok G h with ⟨-, -, rfl⟩ | ⟨-, -, rfl⟩ | ⟨q, red, -, hred, rfl⟩
    · exact fun x hx => same x (by simpa using hx)
    · exact fun x hx => same x (by simpa using hx)
    · have hI := reduceLoop_isReduction G hs hred
      intro x hx
      rcases List.mem_cons.mp (List.mem_reverse.mp hx) with rfl | hx
      · exact hI.linEq
      · exact hI.trace pre x hx
  · intro red hr
    obtain ⟨q, e⟩ := ewd_red G hs h hr
    simp [e.tr_eq]

theorem one_node_per_vertex (D : Fin n → Int) :
    (nodeElements D).map (·.1) = List.finRange n ∧ ∀ x ∈ nodeElements D, x.2.1 = D x.1 := by
  constructor
  · simp [nodeElements, Function.comp_def]
  · intro x hx
    simp only [nodeElements, List.mem_map] at hx
    obtain ⟨v, -, rfl⟩ := hx; rfl

/-- `m` copies (indices 0..m−1) of each unordered pair of multiplicity `m` -/
theorem edge_elements_spec (G : Graph n) (st : Fin n → Fin n → Nat) (e : EdgeEl n) :
    e ∈ edgeElements G st ↔
      e.a.1 < e.b.1 ∧ e.i < G.adj e.a e.b ∧
      e.oriented = decide (st e.a e.b = 1 ∨ st e.a e.b = 2) ∧
      e.src = (if st e.a e.b = 2 then e.b else e.a) ∧ e.tgt = (if st e.a e.b = 2 then e.a else e.b) := by
  unfold edgeElements
  simp only [List.mem_flatMap, List.mem_finRange, true_and]
  constructor
  · rintro ⟨a, b, hmem⟩
    split at hmem
    · rename_i hab
      simp only [List.mem_map, List.mem_range] at hmem
      obtain ⟨i, hi, rfl⟩ := hmem
      exact ⟨hab, hi, rfl, rfl, rfl⟩
    · simp at hmem
  · rintro ⟨hab, hi, ho, hs, ht⟩
    refine ⟨e.a, e.b, ?_⟩
    rw [if_pos hab]
    simp only [List.mem_map, List.mem_range]
    refine ⟨e.i, hi, ?_⟩
    cases e; simp_all

theorem arrows_iff_oriented (G : Graph n) (st : Fin n → Fin n → Nat) (e : EdgeEl n) (h : e ∈ edgeElements G st) :
    (e.oriented = true ↔ st e.a e.b ≠ 0 ∧ st e.a e.b ≤ 2 ∨ st e.a e.b = 1 ∨ st e.a e.b = 2) ∧
    (st e.a e.b = 1 → e.src = e.a ∧ e.tgt = e.b) ∧ (st e.a e.b = 2 → e.src = e.b ∧ e.tgt = e.a) := by
  obtain ⟨-, -, ho, hs, ht⟩ := (edge_elements_spec G st e).mp h
  refine ⟨?_, ?_, ?_⟩
  · rw [ho, decide_eq_true_eq]
    omega
  · intro h1; rw [hs, ht]; simp [h1]
  · intro h2; rw [hs, ht]; simp [h2]

/-- non-vacuity: doubled edge 0–1 oriented 1 → 0, single edge 1–2 unoriented: three elements -/
example : ∃ G : Graph 3, Graph.new 3 false [(0, 1, 2), (1, 2, 1)] = .ok G ∧
    ∃ o, Orient.new G [(1, 0)] = .ok o ∧
      (edgeElements G o.st).map (fun e => (e.a.1, e.b.1, e.i, e.oriented, e.src.1, e.tgt.1))
        = [(0, 1, 0, true, 1, 0), (0, 1, 1, true, 1, 0), (1, 2, 0, false, 1, 2)] := by
  refine ⟨_, rfl, _, rfl, by decide +kernel⟩

end CF.C18
