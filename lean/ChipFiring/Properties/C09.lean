import ChipFiring.Theory.Acyclic
import ChipFiring.Theory.RankTheory
import ChipFiring.Theory.Ewd
/-
  C09 — The burning orientation is an acyclic certificate of the verdict.
  The orientation EWD returns is the direction predicate `red.st.dir G` of the final burn.
-/
namespace CF.C09
open CF Finset
variable {n : Nat}

/-- either mode; the divisor being non-negative off q, the strict bound off q makes q the only source -/
theorem ewd_orientation_certificate (G : Graph n) (hG : G.WF) (hint : Fin n → List (Fin n))
    (fuel : Nat) (Dv : Divisor n) (opt : Bool) (r : EwdOut n) (red : Reduced n)
    (hcover : ∀ q v, v ≠ q → v ∈ debtOrder G hint q)
    (h : ewd G hint fuel Dv opt = some (.ok r)) (hr : r.red = some red) :
    ∃ q, r.q = some q ∧
      OFull G (red.st.dir G) ∧ OAcyclic G (red.st.dir G) ∧
      red.st.indeg G q = 0 ∧
      (∀ v, v ≠ q → red.D v < red.st.indeg G v) ∧
      (∀ v, v ≠ q → 0 < red.st.indeg G v) ∧
      (∑ v, red.st.indeg G v = (G.total : Int)) := by
  obtain ⟨q, e⟩ := ewd_red G hG.symm h hr
  obtain ⟨h1, h2, h3, h4, h5⟩ := burn_certificate hG q red.D e.burnt
  rw [← e.st_eq] at h1 h2 h3 h4 h5
  refine ⟨q, e.q_eq, h1, h2, h3, h4, fun v hv => ?_, h5⟩
  have := h4 v hv
  have := e.nonneg v (hcover q v hv)
  omega

/-- for an unwinnable verdict: a checkable proof of unwinnability -/
theorem unwinnable_dominated (G : Graph n) (hG : G.WF) (hint : Fin n → List (Fin n))
    (fuel : Nat) (Dv : Divisor n) (r : EwdOut n)
    (hcover : ∀ q v, v ≠ q → v ∈ debtOrder G hint q)
    (h : ewd G hint fuel Dv false = some (.ok r)) (hv : r.verdict = false) :
    ∃ red, r.red = some red ∧ ∀ v, red.D v ≤ red.st.indeg G v - 1 := by
  obtain ⟨q, red, e⟩ := ewd_plain G hG.symm h
  obtain ⟨-, -, h0, hb, -⟩ := burn_certificate hG q red.D e.burnt
  rw [← e.st_eq] at h0 hb
  exact ⟨red, e.red_eq, dominated_of_bound h0 hb (by simpa [e.verdict_eq] using hv)⟩

/-- the model has no "orientation is not full" exit: when the loop ends everything is burnt -/
theorem never_not_full (G : Graph n) (hG : G.WF) (hint : Fin n → List (Fin n))
    (fuel : Nat) (Dv : Divisor n) (opt : Bool) (r : EwdOut n) (red : Reduced n)
    (hcover : ∀ q v, v ≠ q → v ∈ debtOrder G hint q)
    (h : ewd G hint fuel Dv opt = some (.ok r)) (hr : r.red = some red) :
    ∀ u v, 0 < G.adj u v → (red.st.dir G u v = !red.st.dir G v u) := by
  obtain ⟨q, -, hf, -⟩ := ewd_orientation_certificate G hG hint fuel Dv opt r red hcover h hr
  exact hf

/-- non-vacuity: an unwinnable input on a multigraph with cycles -/
example : ∃ G : Graph 4, Graph.new 4 false [(0, 3, 3), (1, 2, 2), (2, 3, 1)] = .ok G ∧
    ∃ r red, ewd G (fun _ => []) 1000 (Divisor.ofFn fun v => [-3, -1, -2, 6].getD v.1 0) false = some (.ok r) ∧
      r.red = some red ∧ r.verdict = false ∧ (List.finRange 4).map (red.st.indeg G) = [0, 2, 1, 3] := by
  refine ⟨_, rfl, _, _, rfl, rfl, by decide, by decide⟩

/-- on a connected graph: the certificate without side conditions on the BFS -/
theorem certificate_connected (G : Graph n) (hG : G.WF) (hc : G.Connected) (hint : Fin n → List (Fin n))
    (fuel : Nat) (Dv : Divisor n) (opt : Bool) (r : EwdOut n) (red : Reduced n)
    (h : ewd G hint fuel Dv opt = some (.ok r)) (hr : r.red = some red) :
    ∃ q, r.q = some q ∧ OFull G (red.st.dir G) ∧ OAcyclic G (red.st.dir G) ∧ red.st.indeg G q = 0 ∧
      (∀ v, v ≠ q → red.D v < red.st.indeg G v) ∧ (∀ v, v ≠ q → 0 < red.st.indeg G v) := by
  obtain ⟨q, h1, h2, h3, h4, h5, h6, -⟩ :=
    ewd_orientation_certificate G hG hint fuel Dv opt r red (cover_of_connected G hG hc hint) h hr
  exact ⟨q, h1, h2, h3, h4, h5, h6⟩

/-- **verified checker**: the driver runs `certOK` on the orientation the *implementation* returned
    (witness phase); whatever it accepts is the certificate of this property, for any burn order the code
    may use -/
theorem checker_sound (G : Graph n) (q : Fin n) (D : Fin n → Int) (dir : Fin n → Fin n → Bool) (pos : Fin n → Nat)
    (h : certOK G q D dir pos = true) :
    OFull G dir ∧ OAcyclic G dir ∧ indeg G dir q = 0 ∧ (∀ v, v ≠ q → D v < indeg G dir v) ∧
    (D q < 0 → ∀ v, D v ≤ indeg G dir v - 1) := by
  obtain ⟨h1, h2, h3, h4⟩ := certOK_sound G h
  exact ⟨h1, h2, h3, h4, dominated_of_bound h3 h4⟩

/-- T9 + domination -/
theorem checker_proves_unwinnable (G : Graph n) (hG : G.WF) (hn : 0 < n) (q : Fin n) (D : Fin n → Int)
    (dir : Fin n → Fin n → Bool) (pos : Fin n → Nat)
    (h : certOK G q D dir pos = true) (hq : D q < 0) : ¬ Winnable G D := by
  obtain ⟨-, hac, h0, hb⟩ := certOK_sound G h
  exact unwinnable_of_le_acyclic G hG.symm hn dir hac D (dominated_of_bound h0 hb hq)

end CF.C09
