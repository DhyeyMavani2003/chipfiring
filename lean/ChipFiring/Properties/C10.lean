import ChipFiring.Theory.Parking
import ChipFiring.Theory.SSCount
import ChipFiring.Theory.Pollak
/-
  C10 — Legal set-firings, superstables and parking functions match their definitions.
  The clauses about the configuration tests are in `Theory/Config.lean`, same namespace; here are the
  parking predicates and the counting clauses.
-/
namespace CF.C10
open CF
variable {n : Nat}

/-! length mismatch and out-of-range values are rejected; the empty sequence is a parking
    function of length 0 only -/

theorem parking_length_mismatch (seq : List Int) (m : Int) (h : (seq.length : Int) ≠ m) :
    isParkingFunction seq (some m) = false := by
  simp [isParkingFunction, h]

theorem parking_empty : isParkingFunction [] none = true ∧ isParkingFunction [] (some 0) = true := by
  constructor <;> rfl

theorem parking_range (seq : List Int) (x : Int) (hx : x ∈ seq) (hr : x < 1 ∨ (seq.length : Int) < x) :
    isParkingFunction seq none = false := by
  rw [Bool.eq_false_iff]
  intro h
  have := parking_le_length seq h x hx
  omega

theorem generated_are_parking (m : Int) : ∀ s ∈ generateParking m, isParkingFunction s (some m) = true := by
  fun_cases generateParking m with
  | case1 => exact fun s hs => nomatch hs
  | case2 => exact fun s hs => (List.mem_filter.mp hs).2

example : isParkingFunction [2, 1, 1] none = true ∧ isParkingFunction [3, 3, 1] none = false ∧
    isParkingFunction [] (some 3) = false := by decide

/-- **matrix-tree**: the configurations in the box Π_v [0, rowSum v) that `is_superstable` accepts are as
    many as |det| of the reduced Laplacian with the entries of `_construct_matrix`.  The box enumeration
    and the Laplace expansion are the driver's, not /repo's: the run compares `is_superstable` per
    configuration and the matrix entries with the library. -/
theorem superstable_count_eq_det (G : Graph n) (hG : G.WF) (hc : G.Connected) (hn : 0 < n) (q : Fin n) :
    ((boxConfigs (vtilde q) (fun v => G.rowSum v)).filter fun c => isSuperstable G q c).length
      = (detRows (n + 1) ((vtilde q).map fun v => (vtilde q).map fun w => lapEntry G v w)).natAbs :=
  CF.superstable_count_eq_det G q hG hc hn

/-- the abstract form -/
theorem card_superstable (G : Graph n) (hG : G.WF) (hc : G.Connected) (hn : 0 < n) (q : Fin n) :
    Nat.card {c : Off q → Int // Superstable G q c} = ((redLap G q).det).natAbs :=
  card_superstable_eq_det G q hG hc hn

/-- **K_n**: superstable iff the chip counts plus one, over the vertices other than q, form a parking
    function -/
theorem complete_superstable_iff_parking (G : Graph n) (hK : IsComplete G) (q : Fin n) (D : Fin n → Int) :
    isSuperstable G q D = true ↔ isParkingFunction ((vtilde q).map fun v => D v + 1) none = true :=
  CF.complete_superstable_iff_parking G hK q D

/-- `is_parking_function`: "for every i at least i entries are ≤ i", on positive entries -/
theorem parking_iff_counting (seq : List Int) :
    isParkingFunction seq none = true ↔ (∀ x ∈ seq, 1 ≤ x) ∧ CountCond seq 0 := isParkingFunction_iff seq

/-- **Pollak's count, for every length**: `generate_parking_functions(m)` lists (m+1)^(m−1) sequences, the
    closed form `parking_function_count(m)` publishes (via superstables of K_(m+1) and Cayley's determinant) -/
theorem parking_count_all (m : Nat) (hm : 1 ≤ m) :
    (generateParking (m : Int)).length = (m + 1) ^ (m - 1) ∧
    ((generateParking (m : Int)).length : Int) = parkingCount (m : Int) :=
  ⟨generateParking_length m hm, generateParking_count m⟩

theorem parking_count_small : ∀ k ∈ [1, 2, 3, 4, 5], ((generateParking k).length : Int) = parkingCount k :=
  fun k _ => generateParking_count k

/-- Cayley -/
theorem complete_reduced_det (G : Graph n) (hK : IsComplete G) (hn : 2 ≤ n) (q : Fin n) :
    (redLap G q).det = (n : Int) ^ (n - 2) := det_complete G q hK hn

/-- without the absolute value: the reduced Laplacian of a connected multigraph is positive definite -/
theorem superstable_count_eq_det_exact (G : Graph n) (hG : G.WF) (hc : G.Connected) (hn : 0 < n) (q : Fin n) :
    (((boxConfigs (vtilde q) (fun v => G.rowSum v)).filter fun c => isSuperstable G q c).length : Int)
      = detRows (n + 1) ((vtilde q).map fun v => (vtilde q).map fun w => lapEntry G v w) := by
  rw [CF.superstable_count_eq_det G q hG hc hn, detRows_red G q hG]
  exact Int.natAbs_of_nonneg (le_of_lt (redLap_det_pos G q hG hc))

theorem reduced_det_pos (G : Graph n) (hG : G.WF) (hc : G.Connected) (q : Fin n) : 0 < (redLap G q).det :=
  redLap_det_pos G q hG hc

end CF.C10
