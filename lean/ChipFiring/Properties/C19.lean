import ChipFiring.Theory.Independent
import ChipFiring.Theory.Complete
import ChipFiring.Theory.Serial
import ChipFiring.Theory.Cert
import ChipFiring.Theory.GonCert
import ChipFiring.Theory.CompleteSearch
import ChipFiring.Generated.Solids
import ChipFiring.Generated.ClosedForms
/-
  C19 — Published closed forms and bounds agree with the true gonality.
  `ChipFiring/Generated/*.lean` is rewritten from /repo's working tree on every run (the five generated
  graphs, the Platonic-solid table, a translation of the closed-form one-liners); the kernel re-checks the
  theorems below against that.  Not proved: the lower bounds of the bounds report and the general
  multipartite formula (refuted on K_{3,1}).
-/
namespace CF.C19
open CF
variable {n : Nat}

theorem complete_graph_closed_form (k : Int) :
    Gen.complete_graph_gonality k = (match completeGraphGonality k with | .ok v => some v | .error _ => none) := by
  unfold Gen.complete_graph_gonality completeGraphGonality
  split <;> simp_all

theorem pyMin_eq (p : Int) (ps : List Int) : Gen.pyMin (p :: ps) = ps.foldl min p := rfl

theorem multipartite_closed_form (ps : List Int) :
    Gen.complete_multipartite_gonality ps = some (completeMultipartiteGonality ps) := by
  unfold Gen.complete_multipartite_gonality completeMultipartiteGonality
  match ps with
  | [] => simp
  | [p] => simp
  | p :: q :: r =>
    simp only [List.isEmpty_cons, Bool.false_eq_true, if_false, List.length_cons, pyMin_eq]
    have h0 : ¬ ((r.length : Int) + 1 = 0) := by omega
    simp [h0]

theorem parking_count_closed_form (k : Int) : Gen.parking_function_count k = some (parkingCount k) := by
  unfold Gen.parking_function_count parkingCount
  split <;> simp_all

/-- (vertices, edges, regular of this degree) of a generated graph -/
def counts (N : Nat) (es : List (Nat × Nat × Int)) : Option (Nat × Nat × Option Nat) :=
  match Graph.new N false es with
  | .ok G =>
    let ds := (List.finRange N).map G.val
    some (N, G.total, match ds with
      | [] => none
      | d :: rest => if rest.all (· == d) then some d else none)
  | .error _ => none

def tableRow (name : String) : Option (Option Int × Int × Int × Nat × Nat) :=
  (Gen.table.find? (·.1 == name)).map (·.2)

/-- the generated solids have the counts the table states (a finite table: kernel evaluation is a proof) -/
theorem solid_counts :
    counts Gen.tetrahedronN Gen.tetrahedronEdges = some (4, 6, some 3) ∧
    counts Gen.cubeN Gen.cubeEdges = some (8, 12, some 3) ∧
    counts Gen.octahedronN Gen.octahedronEdges = some (6, 12, some 4) ∧
    counts Gen.dodecahedronN Gen.dodecahedronEdges = some (20, 30, some 3) ∧
    counts Gen.icosahedronN Gen.icosahedronEdges = some (12, 30, some 5) ∧
    (tableRow "tetrahedron").map (·.2.2.2) = some (4, 6) ∧ (tableRow "cube").map (·.2.2.2) = some (8, 12) ∧
    (tableRow "octahedron").map (·.2.2.2) = some (6, 12) ∧ (tableRow "dodecahedron").map (·.2.2.2) = some (20, 30) ∧
    (tableRow "icosahedron").map (·.2.2.2) = some (12, 30) := by
  decide +kernel

/-- value found by the verified search, with its hypotheses certified -/
def certifiedGonality (N : Nat) (es : List (Nat × Nat × Int)) : Option Int :=
  match Graph.new N false es with
  | .ok G => if goodCert G then (computeGonality G 100000 N false).map (·.1) else none
  | .error _ => none

theorem certified_is_gonality (N : Nat) (es : List (Nat × Nat × Int)) (k : Nat) (hk : 1 ≤ k)
    (h : certifiedGonality N es = some (k : Int)) :
    ∃ G : Graph N, Graph.new N false es = .ok G ∧ IsGonality G k := by
  unfold certifiedGonality at h
  split at h
  · rename_i G hG
    split_ifs at h with hc
    obtain ⟨⟨g, l⟩, hcg, rfl⟩ := Option.map_eq_some_iff.mp h
    rcases computeGonality_exact G (good_of_cert G hc) 100000 N false _ l hcg with
      ⟨h1, -⟩ | ⟨k', h1, -, -, h4, -⟩
    · omega
    · obtain rfl : k' = k := by exact_mod_cast h1.symm
      exact ⟨G, hG, h4⟩
  · cases h

/-- the certificate check of `Theory/GonCert` on the graph the constructor builds from `es` -/
def gonCertOf (N : Nat) (es : List (Nat × Nat × Int)) (k : Nat) : Bool :=
  match Graph.new N false es with
  | .ok G => gonCert G k
  | .error _ => false

theorem gonCertOf_sound (N : Nat) (es : List (Nat × Nat × Int)) (k : Nat) (hN : 0 < N) (hk : 1 ≤ k)
    (h : gonCertOf N es k = true) : ∃ G : Graph N, Graph.new N false es = .ok G ∧ IsGonality G k := by
  unfold gonCertOf at h
  split at h
  · rename_i G hG
    exact ⟨G, hG, isGonality_of_gonCert G (Graph.new_wf hG).symm hN k hk h⟩
  · cases h

/-- the exact entries of the table, on the regenerated graphs -/
theorem tetrahedron_exact : (tableRow "tetrahedron").map (·.1) = some (some 3) ∧
    ∃ G : Graph Gen.tetrahedronN, Graph.new _ false Gen.tetrahedronEdges = .ok G ∧ IsGonality G 3 :=
  ⟨by decide +kernel, gonCertOf_sound _ _ 3 (by decide) (by decide) (by decide +kernel)⟩

theorem octahedron_exact : (tableRow "octahedron").map (·.1) = some (some 4) ∧
    ∃ G : Graph Gen.octahedronN, Graph.new _ false Gen.octahedronEdges = .ok G ∧ IsGonality G 4 :=
  ⟨by decide +kernel, gonCertOf_sound _ _ 4 (by decide) (by decide) (by decide +kernel)⟩

theorem cube_exact : (tableRow "cube").map (·.1) = some (some 4) ∧
    ∃ G : Graph Gen.cubeN, Graph.new _ false Gen.cubeEdges = .ok G ∧ IsGonality G 4 :=
  ⟨by decide +kernel, gonCertOf_sound _ _ 4 (by decide) (by decide) (by decide +kernel)⟩

/-- complete graph K_m as the library generates it -/
def completeEdges (m : Nat) : List (Nat × Nat × Int) :=
  (List.range m).flatMap fun a => (List.range m).filterMap fun b => if a < b then some (a, b, (1 : Int)) else none

/-- known finding K2: the complete-multipartite closed form subtracts the *smallest* part; on
    K_{3,1} (a star, gonality 1) it answers 3 -/
theorem multipartite_formula_wrong :
    Gen.complete_multipartite_gonality [3, 1] = some 3 ∧
    certifiedGonality 4 [(0, 3, 1), (1, 3, 1), (2, 3, 1)] = some 1 := by
  decide +kernel

theorem independence_is_max (G : Graph n) (S : List (Fin n)) (hS : S ∈ subsetsOf n) (hi : isIndependent G S = true) :
    S.length ≤ independenceNumber G :=
  (foldl_max_spec List.length _ 0).1 S (List.mem_filter.mpr ⟨hS, hi⟩)

theorem completeEdges_eq_dictEdges (m : Nat) : completeEdges m = dictEdges (completeGraph m) := by
  unfold completeEdges dictEdges Graph.edgeList
  rw [← List.map_coe_finRange_eq_range, List.flatMap_map, List.map_flatMap]
  apply List.flatMap_congr
  intro a _
  rw [List.filterMap_map, List.map_filterMap]
  apply List.filterMap_congr
  intro b _
  by_cases h : a.1 < b.1
  · have hne : ¬ a = b := fun e => by rw [e] at h; exact lt_irrefl _ h
    simp [completeGraph, h, hne]
  · simp [h]

theorem completeEdges_new (m : Nat) :
    ∃ G, Graph.new m false (completeEdges m) = .ok G ∧ IsComplete G := by
  obtain ⟨G, h, hadj⟩ := Graph.new_dictEdges (completeGraph m)
    (fun v w => by simp [completeGraph, eq_comm]) (fun v => by simp [completeGraph])
  exact ⟨G, completeEdges_eq_dictEdges m ▸ h, fun x y => by rw [hadj]; simp [completeGraph]⟩

theorem completeEdges_isComplete (m : Nat) (G : Graph m) (h : Graph.new m false (completeEdges m) = .ok G) :
    IsComplete G := by
  obtain ⟨G', h', hK⟩ := completeEdges_new m
  rw [h] at h'
  exact Except.ok.inj h' ▸ hK

/-- **K_n, all n ≥ 2**: gonality n − 1 on the generated edge list, the value of the published closed form -/
theorem complete_graph_gonality_all (m : Nat) (hm : 2 ≤ m) :
    ∃ G : Graph m, Graph.new m false (completeEdges m) = .ok G ∧ IsGonality G (m - 1) ∧
      Gen.complete_graph_gonality (m : Int) = some (((m - 1 : Nat) : Int)) := by
  obtain ⟨G, h, hK⟩ := completeEdges_new m
  refine ⟨G, h, complete_gonality G hK hm, ?_⟩
  unfold Gen.complete_graph_gonality
  rw [if_neg (by omega)]
  push_cast [Nat.cast_sub (by omega : 1 ≤ m)]; rfl

/-- the hypotheses certificate of `certifiedGonality` on the generated K_m -/
def completeCert (m : Nat) : Bool :=
  match Graph.new m false (completeEdges m) with
  | .ok G => goodCert G
  | .error _ => false

/-- on the generated K_m the model's own search returns the closed form within its fuel (`complete_search`) -/
theorem certifiedGonality_complete (m : Nat) (hm : 2 ≤ m) (hf : m + 1 ≤ 100000)
    (hcert : completeCert m = true) :
    certifiedGonality m (completeEdges m) = Gen.complete_graph_gonality m := by
  obtain ⟨G, hG, -, hcf⟩ := complete_graph_gonality_all m hm
  simp only [completeCert, hG] at hcert
  simp only [certifiedGonality, hG, hcert, if_true]
  rw [complete_search (completeEdges_isComplete m G hG) (Graph.new_wf hG) hm _ hf, hcf]

/-- n = 2..5 (n = 6: `complete_graph_gonality_six`) -/
theorem complete_graph_gonality_small :
    ∀ m ∈ [2, 3, 4, 5], certifiedGonality m (completeEdges m) = (Gen.complete_graph_gonality m) := by
  intro m hm
  simp only [List.mem_cons, List.not_mem_nil, or_false] at hm
  rcases hm with rfl | rfl | rfl | rfl <;>
    exact certifiedGonality_complete _ (by decide) (by decide) (by decide +kernel)

theorem complete_graph_gonality_six :
    certifiedGonality 6 (completeEdges 6) = Gen.complete_graph_gonality 6 :=
  certifiedGonality_complete 6 (by decide) (by decide) (by decide +kernel)

/-- any presentation of K_n (any insertion order, either endpoint order) -/
theorem complete_graph_gonality_any {m : Nat} (G : Graph m) (hK : IsComplete G) (hm : 2 ≤ m) :
    IsGonality G (m - 1) := complete_gonality G hK hm

/-- the upper entries n − 1 and n − α of the bounds report and their minimum `upper_bound` -/
theorem bounds_upper_valid (G : Graph n) (hG : G.WF) (hc : G.Connected) (hn : 2 ≤ n) (hsimple : ∀ u v, G.adj u v ≤ 1)
    (k : Nat) (hk : IsGonality G k) :
    (k : Int) ≤ (boundsReport G).trivialUpper ∧ (k : Int) ≤ (boundsReport G).independenceUpper ∧
    (k : Int) ≤ (boundsReport G).upper := CF.bounds_upper_valid G hG hc hn hsimple k hk

theorem independence_attained (G : Graph n) : ∃ S : List (Fin n), S.Nodup ∧ isIndependent G S = true ∧
    S.length = independenceNumber G := independenceNumber_attained G

end CF.C19
