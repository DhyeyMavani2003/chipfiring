import ChipFiring.Theory.Acyclic
import ChipFiring.Theory.OrientInv
import ChipFiring.Theory.LinEq
/-
  C11 — Orientation counters stay consistent; orientation divisors obey the K identities.
-/
namespace CF.C11
open CF Finset Orient
variable {n : Nat}

theorem constructed_inv (G : Graph n) (hG : G.WF) (pairs : List (Nat × Nat)) (o : Orient n)
    (h : Orient.new G pairs = .ok o) : Inv G o := new_go_inv G hG pairs _ o (blank_inv G) h

/-- any sequence of orienting, re-orienting and un-orienting edges, valid or refused, both endpoint
    orders, flag refreshes in between -/
theorem history_inv (G : Graph n) (hG : G.WF) (o : Orient n) (hinv : Inv G o) (ops : List OOp) :
    Inv G (ops.foldl (oapply G) o) :=
  ops.foldlRecOn (oapply G) hinv fun o h op _ => oapply_inv G hG o h op

/-- `check_fullness` -/
theorem checkFullness_exact (G : Graph n) (o : Orient n) :
    (checkFullness G o).2 = true ↔ ∀ u v : Fin n, 0 < G.adj u v → u.1 < v.1 → o.st u v ≠ 0 :=
  fullNow_iff G o

def IsFull (G : Graph n) (o : Orient n) : Prop := ∀ u v, 0 < G.adj u v → o.st u v ≠ 0

/-! the stored counters are the spec in-degrees of `dirOf`, so what `Theory/Acyclic` proves about full
    orientations holds of the objects -/

def dirOf (o : Orient n) : Fin n → Fin n → Bool := fun u v => decide (o.st u v = 1)

theorem inD_eq_indeg (G : Graph n) (o : Orient n) (hinv : Inv G o) (v : Fin n) :
    o.inD v = indeg G (dirOf o) v := by
  rw [hinv.inOk]; unfold inSpec indeg dirOf I1
  apply Finset.sum_congr rfl; intro u _
  by_cases h : o.st u v = 1 <;> simp [h]

theorem dirOf_rev {G : Graph n} {o r : Orient n} (hinv : Inv G o)
    (hrev : ∀ u v, r.st u v = Orient.flip (o.st u v)) : dirOf r = revDir (dirOf o) := by
  funext u v; simp only [dirOf, revDir, hrev u v, hinv.agree u v]

theorem oFull_dirOf {G : Graph n} {o : Orient n} (hinv : Inv G o) (hf : IsFull G o) : OFull G (dirOf o) := by
  intro u v huv
  have h0 := hf u v huv
  have h2 := hinv.range u v
  simp only [dirOf, hinv.agree u v, Orient.flip]
  split_ifs <;> simp_all
  omega

theorem outD_eq_indeg_rev (G : Graph n) (hG : G.WF) (o : Orient n) (hinv : Inv G o) (v : Fin n) :
    o.outD v = indeg G (revDir (dirOf o)) v := by
  rw [hinv.outOk]; unfold outSpec indeg revDir dirOf I1
  apply Finset.sum_congr rfl; intro u _
  rw [hG.symm u v]
  by_cases h : o.st v u = 1 <;> simp [h]

theorem in_add_out (G : Graph n) (hG : G.WF) (o : Orient n) (hinv : Inv G o) (hf : IsFull G o) (v : Fin n) :
    o.inD v + o.outD v = ∑ u, (G.adj v u : Int) := by
  rw [inD_eq_indeg G o hinv, outD_eq_indeg_rev G hG o hinv]
  exact indeg_add_rev G hG.symm (oFull_dirOf hinv hf) v

/-- the divisor of a full orientation (in-degree minus one) has degree g − 1 -/
theorem divisor_degree (G : Graph n) (hG : G.WF) (o : Orient n) (hinv : Inv G o) (hf : IsFull G o) :
    (∀ v, divisorOf o v = o.inD v - 1) ∧ deg (divisorOf o) = G.genus - 1 := by
  refine ⟨fun _ => rfl, ?_⟩
  rw [← sum_indeg_sub_one G hG (oFull_dirOf hinv hf)]
  exact Finset.sum_congr rfl fun v _ => by rw [divisorOf, inD_eq_indeg G o hinv]

/-- in the reversed orientation (every state flipped) the in-degree is the old out-degree -/
theorem reverse_in_eq_out (G : Graph n) (hG : G.WF) (o r : Orient n) (hinv : Inv G o) (hr : Inv G r)
    (hrev : ∀ u v, r.st u v = Orient.flip (o.st u v)) (v : Fin n) : r.inD v = o.outD v := by
  rw [inD_eq_indeg G r hr, dirOf_rev hinv hrev, outD_eq_indeg_rev G hG o hinv]

/-- hence the two divisors add up to the canonical divisor -/
theorem divisor_add_reverse (G : Graph n) (hG : G.WF) (o r : Orient n) (hinv : Inv G o) (hr : Inv G r)
    (hf : IsFull G o) (hrev : ∀ u v, r.st u v = Orient.flip (o.st u v)) (v : Fin n) :
    divisorOf o v + divisorOf r v = canonicalOf G v := by
  simp only [divisorOf, canonicalOf, reverse_in_eq_out G hG o r hinv hr hrev v, hG.val_cast v]
  have := in_add_out G hG o hinv hf v
  linarith

/-- what makes the orientation EWD returns for an unwinnable verdict a proof of that verdict -/
theorem acyclic_unwinnable (G : Graph n) (hs : ∀ v w, G.adj v w = G.adj w v) (hn : 0 < n)
    (dir : Fin n → Fin n → Bool) (h : OAcyclic G dir) :
    ¬ Winnable G (fun v => indeg G dir v - 1) := CF.acyclic_unwinnable G hs hn dir h

theorem acyclic_divisor_unwinnable (G : Graph n) (hG : G.WF) (hn : 0 < n) (o : Orient n) (hinv : Inv G o)
    (hac : OAcyclic G (dirOf o)) : ¬ Winnable G (divisorOf o) := by
  have := acyclic_unwinnable G hG.symm hn (dirOf o) hac
  have heq : divisorOf o = fun v => indeg G (dirOf o) v - 1 := by
    funext v; simp [divisorOf, inD_eq_indeg G o hinv v]
  rw [heq]; exact this

/-- non-vacuity: on the doubled triangle, orient, re-orient through the other endpoint, un-orient -/
example : ∃ G : Graph 3, Graph.new 3 false [(0, 1, 2), (1, 2, 2), (0, 2, 2)] = .ok G ∧
    ∃ o, Orient.new G [(0, 1), (1, 2), (0, 2)] = .ok o ∧
      (List.finRange 3).map (divisorOf o) = [-1, 1, 3] ∧
      (List.finRange 3).map (oapply G (oapply G o (.set 1 0 1)) (.set 2 1 0)).inD = [2, 0, 2] := by
  refine ⟨_, rfl, _, rfl, by decide +kernel, by decide +kernel⟩

end CF.C11
