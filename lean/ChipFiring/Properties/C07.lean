import ChipFiring.Theory.RankTheory
import ChipFiring.Theory.Moves
/-
  C07 — linear_equivalence decides membership of D1 − D2 in the Laplacian lattice.
-/
namespace CF.C07
open CF Finset
variable {n : Nat}

/-- `sameGraph` is the structural gate of `linear_equivalence`; the totals are the constructor's caches -/
theorem linEquiv_exact (G : Graph n) (hG : G.WF) (hc : G.Connected) (fuel : Nat) (sameGraph : Bool) (D1 D2 : Divisor n)
    (h1 : D1.total = deg D1.deg) (h2 : D2.total = deg D2.deg)
    (hcover : ∀ q v, v ≠ q → v ∈ debtOrder G (fun _ => []) q)
    (b : Bool) (h : linEquiv G fuel sameGraph D1 D2 = some b) :
    b = true ↔ (sameGraph = true ∧ LinEq G D1.deg D2.deg) := by
  unfold linEquiv at h
  split_ifs at h with hsame ht heq
  · obtain rfl : false = b := Option.some.inj h
    have : sameGraph = false := by simpa using hsame
    simp [this]
  · obtain rfl : false = b := Option.some.inj h
    simp only [Bool.false_eq_true, false_iff, not_and]
    exact fun _ hle => ht (h1.trans ((deg_linEq G hG.symm hle).symm.trans h2.symm))
  · obtain rfl : true = b := Option.some.inj h
    have : D1.deg = D2.deg := funext fun v => by simpa using (allF_iff _).mp heq v
    simp only [true_iff]
    exact ⟨by simpa using hsame, this ▸ LinEq.refl G _⟩
  · -- the degrees differ at some vertex, so there is one
    have hn : 0 < n := by
      obtain ⟨v, -⟩ := not_forall.mp fun hall => heq ((allF_iff _).mpr hall)
      exact v.pos
    have hdeg0 : deg (fun v => D1.deg v - D2.deg v) = 0 := by
      rw [deg_sub, ← h1, ← h2]; omega
    rw [winnableOpt_exact G ⟨hG, hc, hn, hcover⟩ fuel _ b h, winnable_deg_zero G hG.symm _ hdeg0,
      linEq_sub_zero]
    exact (and_iff_right (by simpa using hsame)).symm

/-- the relation that `linEquiv` decides is an equivalence -/
theorem linEq_is_equivalence (G : Graph n) :
    (∀ D, LinEq G D D) ∧ (∀ D D', LinEq G D D' → LinEq G D' D) ∧
    (∀ D D' D'', LinEq G D D' → LinEq G D' D'' → LinEq G D D'') :=
  ⟨LinEq.refl G, fun _ _ => LinEq.symm, fun _ _ _ => LinEq.trans⟩

theorem linEq_invariant_under_moves (G : Graph n) (hs : ∀ v w, G.adj v w = G.adj w v)
    (D D' : Fin n → Int) (v : Fin n) :
    (LinEq G D D' ↔ LinEq G (lend G D v) D') ∧ (LinEq G D D' ↔ LinEq G (borrow G D v) D') := by
  constructor
  · exact ⟨(lend_linEq G hs D v).symm.trans, (lend_linEq G hs D v).trans⟩
  · exact ⟨(borrow_linEq G hs D v).symm.trans, (borrow_linEq G hs D v).trans⟩

theorem not_linEq_of_deg_ne (G : Graph n) (hs : ∀ v w, G.adj v w = G.adj w v) (D D' : Fin n → Int)
    (h : deg D ≠ deg D') : ¬ LinEq G D D' := fun hle => h (deg_linEq G hs hle).symm

/-- non-vacuity: on the 4-cycle, (1,0,0,-1) and (-1,1,0,0) are equivalent by firing vertex 0;
    Pic^0(C4) has order 4, and (1,-1,0,0) is not equivalent to 0 -/
example : ∃ G : Graph 4, Graph.new 4 false [(0, 1, 1), (1, 2, 1), (2, 3, 1), (3, 0, 1)] = .ok G ∧
    linEquiv G 1000 true (Divisor.ofFn fun v => [1, 0, 0, -1].getD v.1 0) (Divisor.ofFn fun v => [-1, 1, 0, 0].getD v.1 0) = some true ∧
    linEquiv G 1000 true (Divisor.ofFn fun v => [1, -1, 0, 0].getD v.1 0) (Divisor.ofFn fun _ => 0) = some false := by
  refine ⟨_, rfl, by decide +kernel, by decide +kernel⟩

theorem linEquiv_exact_connected (G : Graph n) (hG : G.WF) (hc : G.Connected) (fuel : Nat) (sameGraph : Bool)
    (D1 D2 : Divisor n) (h1 : D1.total = deg D1.deg) (h2 : D2.total = deg D2.deg) (b : Bool)
    (h : linEquiv G fuel sameGraph D1 D2 = some b) : b = true ↔ (sameGraph = true ∧ LinEq G D1.deg D2.deg) :=
  linEquiv_exact G hG hc fuel sameGraph D1 D2 h1 h2 (cover_of_connected G hG hc _) b h

end CF.C07
