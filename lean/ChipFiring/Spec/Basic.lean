import ChipFiring.Model.Core
import Mathlib.Algebra.BigOperators.Group.Finset.Basic
import Mathlib.Algebra.BigOperators.Fin
import Mathlib.Algebra.Order.BigOperators.Group.Finset
import Mathlib.Data.Fintype.Basic
import Mathlib.Data.Finset.Max
import Mathlib.Tactic.Linarith
import Mathlib.Tactic.Ring
/-
  The specification: the mathematics of chip-firing over the adjacency function of a model graph.
-/
open Finset

namespace CF
variable {n : Nat}

/-! bridging the list sums of the executable model to `Finset` sums -/

@[simp] theorem sumZ_eq (f : Fin n → Int) : sumZ f = ∑ i, f i := by
  unfold sumZ; rw [Fin.sum_univ_def]

@[simp] theorem sumN_eq (f : Fin n → Nat) : sumN f = ∑ i, f i := by
  unfold sumN; rw [Fin.sum_univ_def]

@[simp] theorem allF_iff (p : Fin n → Bool) : allF p = true ↔ ∀ v, p v = true := by
  unfold allF; simp [List.all_eq_true]

@[simp] theorem anyF_iff (p : Fin n → Bool) : anyF p = true ↔ ∃ v, p v = true := by
  unfold anyF; simp [List.any_eq_true]

namespace Graph

/-- symmetric, loopless, and both caches agree with the adjacency -/
structure WF (G : Graph n) : Prop where
  symm : ∀ v w, G.adj v w = G.adj w v
  loopless : ∀ v, G.adj v v = 0
  val_eq : ∀ v, G.val v = ∑ w, G.adj v w
  total_eq : 2 * G.total = ∑ v, G.val v

theorem WF.val_cast {G : Graph n} (hG : G.WF) (v : Fin n) : (G.val v : Int) = ∑ w, (G.adj v w : Int) := by
  rw [hG.val_eq]; push_cast; rfl

/-- handshake -/
theorem WF.sum_adj {G : Graph n} (hG : G.WF) : ∑ v, ∑ w, (G.adj v w : Int) = 2 * (G.total : Int) := by
  have h := hG.total_eq
  simp only [hG.val_eq] at h
  exact_mod_cast h.symm

/-- connected, in rank-function form: from every root `q` every other vertex has a neighbour of
    smaller rank -/
def Connected (G : Graph n) : Prop :=
  ∀ q : Fin n, ∃ rk : Fin n → Nat, rk q = 0 ∧ ∀ v, v ≠ q → ∃ w, 0 < G.adj v w ∧ rk w < rk v

theorem Connected.induction {G : Graph n} (hc : G.Connected) (q : Fin n) {P : Fin n → Prop} (hq : P q)
    (step : ∀ v w, 0 < G.adj v w → P w → P v) : ∀ v, P v := by
  obtain ⟨rk, -, hrk⟩ := hc q
  intro v
  induction hk : rk v using Nat.strong_induction_on generalizing v with
  | _ k ih =>
    by_cases hvq : v = q
    · rw [hvq]; exact hq
    · obtain ⟨w, hw, hlt⟩ := hrk v hvq
      exact step v w hw (ih (rk w) (hk ▸ hlt) w rfl)

end Graph

/-- `D − L·s` -/
def applyScript (G : Graph n) (D s : Fin n → Int) : Fin n → Int :=
  fun w => D w - ∑ v, (G.adj w v : Int) * (s w - s v)

def LinEq (G : Graph n) (D D' : Fin n → Int) : Prop := ∃ s, D' = applyScript G D s
def Eff (D : Fin n → Int) : Prop := ∀ v, 0 ≤ D v
def Winnable (G : Graph n) (D : Fin n → Int) : Prop := ∃ E, LinEq G D E ∧ Eff E
def deg (D : Fin n → Int) : Int := ∑ v, D v

/-- edges from `v` leaving the set `S` -/
def outdeg (G : Graph n) (S : Fin n → Bool) (v : Fin n) : Int :=
  ∑ w, if S w then 0 else (G.adj v w : Int)

/-- `S` is a non-empty set avoiding `q` that can fire without any member going into debt -/
def Legal (G : Graph n) (q : Fin n) (D : Fin n → Int) (S : Fin n → Bool) : Prop :=
  (∃ v, S v = true) ∧ S q = false ∧ ∀ v, S v = true → outdeg G S v ≤ D v

def QReduced (G : Graph n) (q : Fin n) (D : Fin n → Int) : Prop :=
  (∀ v, v ≠ q → 0 ≤ D v) ∧ ∀ S, ¬ Legal G q D S

/-- Baker–Norine rank, as a relation (proved functional in `Theory`) -/
def IsRank (G : Graph n) (D : Fin n → Int) (r : Int) : Prop :=
  (r = -1 ∧ ¬ Winnable G D) ∨
  (0 ≤ r ∧ (∀ E, Eff E → deg E = r → Winnable G (fun v => D v - E v)) ∧
    ∃ E, Eff E ∧ deg E = r + 1 ∧ ¬ Winnable G (fun v => D v - E v))

def chipAt (v : Fin n) : Fin n → Int := fun w => if w = v then 1 else 0

def RankGeOne (G : Graph n) (D : Fin n → Int) : Prop := ∀ v, Winnable G (fun w => D w - chipAt v w)

def IsGonality (G : Graph n) (k : Nat) : Prop :=
  (∃ D, Eff D ∧ deg D = k ∧ RankGeOne G D) ∧ ∀ D, Eff D → deg D < k → ¬ RankGeOne G D

/-- orientation given by a direction predicate; `dir u v`: the edges between u and v point u → v -/
def OFull (G : Graph n) (dir : Fin n → Fin n → Bool) : Prop :=
  ∀ u v, 0 < G.adj u v → (dir u v = !dir v u)
def OAcyclic (G : Graph n) (dir : Fin n → Fin n → Bool) : Prop :=
  ∃ pos : Fin n → Nat, ∀ u v, dir u v = true → 0 < G.adj u v → pos u < pos v
def indeg (G : Graph n) (dir : Fin n → Fin n → Bool) (v : Fin n) : Int :=
  ∑ w, if dir w v then (G.adj w v : Int) else 0
def canonical (G : Graph n) : Fin n → Int := fun v => (∑ w, (G.adj v w : Int)) - 2
def genusZ (G : Graph n) : Int := (∑ v, ∑ w, (G.adj v w : Int)) / 2 - n + 1

end CF
