import ChipFiring.Model.Core
/-
  A checker for the burning certificate of C09, run by the driver on what the IMPLEMENTATION
  returned: orientation (direction predicate), topological positions computed by the (untrusted)
  harness, sink, reduced divisor.  Soundness: `certOK_sound` in `Theory/Acyclic.lean`.
-/
namespace CF
variable {n : Nat}

/-- the in-degree of `v` under `dir` -/
def indegL (G : Graph n) (dir : Fin n → Fin n → Bool) (v : Fin n) : Int :=
  sumZ fun w => if dir w v then (G.adj w v : Int) else 0

/-- full; increasing along `pos`; nothing enters q; every other vertex holds fewer chips than its
    in-degree -/
def certOK (G : Graph n) (q : Fin n) (D : Fin n → Int) (dir : Fin n → Fin n → Bool) (pos : Fin n → Nat) : Bool :=
  (allF fun u => allF fun v => !(decide (0 < G.adj u v)) || (dir u v == !dir v u)) &&
  (allF fun u => allF fun v => !(dir u v && decide (0 < G.adj u v)) || decide (pos u < pos v)) &&
  decide (indegL G dir q = 0) &&
  (allF fun v => decide (v = q) || decide (D v < indegL G dir v))

end CF
