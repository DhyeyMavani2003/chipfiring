import ChipFiring.Model.JsonDecode
import ChipFiring.Theory.JsonText
/-
  CPython's string scanner applied to the text the encoder writes for a string returns the string:
  vertex names of any content survive the JSON text (the "JSON accepts any string" clause of C15 at
  the level of one string).
-/
namespace CF.JsonText

theorem hexVal_hexDigit : ∀ k, k < 16 → hexVal (hexDigit k) = some k := by decide

theorem hex4Val_hex4 (n : Nat) (hn : n < 65536) (rest : Str) : hex4Val (hex4 n ++ rest) = some (n, rest) := by
  have h1 := hexVal_hexDigit (n / 4096 % 16) (Nat.mod_lt _ (by decide))
  have h2 := hexVal_hexDigit (n / 256 % 16) (Nat.mod_lt _ (by decide))
  have h3 := hexVal_hexDigit (n / 16 % 16) (Nat.mod_lt _ (by decide))
  have h4 := hexVal_hexDigit (n % 16) (Nat.mod_lt _ (by decide))
  simp only [hex4, List.cons_append, List.nil_append, hex4Val, h1, h2, h3, h4]
  congr 2
  omega

-- What `scanStr` does on each form of input the encoder produces.  (Its generated equations are split
-- by the inner matches and do not apply to `c :: rest`; hence `eq_def`.)

theorem scanStr_plain (f : Nat) (c : Char) (rest : Str) (hq : c ≠ '"') (hb : c ≠ '\\') (h : 32 ≤ c.toNat) :
    scanStr (f + 1) (c :: rest) = (scanStr f rest).map fun r => (c :: r.1, r.2) := by
  conv_lhs => rw [scanStr.eq_def]
  simp only [if_neg hq, if_neg hb, if_neg (Nat.not_lt.mpr h)]

theorem scanStr_short (f : Nat) (x ch : Char) (rest : Str) (hu : x ≠ 'u') (hx : shortEsc x = some ch) :
    scanStr (f + 1) ('\\' :: x :: rest) = (scanStr f rest).map fun r => (ch :: r.1, r.2) := by
  conv_lhs => rw [scanStr.eq_def]
  simp only [if_neg (show '\\' ≠ '"' by decide), if_true, if_neg hu, hx]

theorem scanStr_u (f n : Nat) (rest : Str) (hn : n < 65536) (hs : ¬ (0xD800 ≤ n ∧ n ≤ 0xDBFF)) :
    scanStr (f + 1) (uEsc n ++ rest) = (scanStr f rest).map fun r => (Char.ofNat n :: r.1, r.2) := by
  conv_lhs => rw [scanStr.eq_def]
  simp only [uEsc, List.cons_append, if_neg (show '\\' ≠ '"' by decide), if_true, hex4Val_hex4 n hn, if_neg hs]

theorem scanStr_pair (f n m : Nat) (rest : Str) (hn : 0xD800 ≤ n ∧ n ≤ 0xDBFF) (hm : 0xDC00 ≤ m ∧ m ≤ 0xDFFF) :
    scanStr (f + 1) (uEsc n ++ (uEsc m ++ rest)) =
      (scanStr f rest).map fun r => (Char.ofNat (0x10000 + (n - 0xD800) * 1024 + (m - 0xDC00)) :: r.1, r.2) := by
  conv_lhs => rw [scanStr.eq_def]
  simp only [uEsc, List.cons_append, if_neg (show '\\' ≠ '"' by decide), if_true, hex4Val_hex4 n (by omega), hn,
    and_self, hex4Val_hex4 m (by omega), hm]

theorem shortTable_decodes : ∀ p ∈ shortTable, p.1 ≠ 'u' ∧ shortEsc p.1 = some p.2 := by decide

theorem EscShape.scanStr {c : Char} {e : Str} (he : EscShape c e) (f : Nat) (rest : Str) :
    scanStr (f + 1) (e ++ rest) = (scanStr f rest).map fun r => (c :: r.1, r.2) := by
  have hr : c.toNat < 0xD800 ∨ (0xDFFF < c.toNat ∧ c.toNat < 0x110000) := c.valid
  cases he with
  | short x hx => exact scanStr_short f x c rest (shortTable_decodes _ hx).1 (shortTable_decodes _ hx).2
  | plain h hq hb => exact scanStr_plain f c rest hq hb h.1
  | bmp h => rw [scanStr_u f _ rest h (by omega), Char.ofNat_toNat]
  | pair h =>
    rw [List.append_assoc, scanStr_pair f _ _ rest (by omega) (by omega)]
    have : 0x10000 + (55296 + (c.toNat - 65536) / 1024 % 1024 - 0xD800) * 1024 +
        (56320 + (c.toNat - 65536) % 1024 - 0xDC00) = c.toNat := by omega
    rw [this, Char.ofNat_toNat]

theorem scanStr_body (s : Str) (f : Nat) (hf : s.length < f) (rest : Str) :
    scanStr f (s.flatMap escChar ++ '"' :: rest) = some (s, rest) := by
  induction s generalizing f with
  | nil => obtain ⟨f, rfl⟩ : ∃ g, f = g + 1 := ⟨f - 1, by omega⟩; simp [scanStr]
  | cons c cs ih =>
    obtain ⟨f, rfl⟩ : ∃ g, f = g + 1 := ⟨f - 1, by omega⟩
    rw [List.flatMap_cons, List.append_assoc, (escChar_shape c).scanStr, ih f (Nat.lt_of_succ_lt_succ hf)]
    rfl

theorem EscShape.length_pos {c : Char} {e : Str} (he : EscShape c e) : 1 ≤ e.length := by
  cases he <;> simp [uEsc]

theorem length_flatMap_escChar (s : Str) : s.length ≤ (s.flatMap escChar).length := by
  induction s with
  | nil => simp
  | cons c cs ih =>
    have := (escChar_shape c).length_pos
    simp only [List.flatMap_cons, List.length_append, List.length_cons]
    omega

end CF.JsonText
