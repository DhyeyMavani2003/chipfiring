import ChipFiring.Theory.MatrixTree
import ChipFiring.Theory.DetRows
import ChipFiring.Theory.Box
import ChipFiring.Theory.Config
/-
  The count of superstables as the model computes it (box enumeration filtered by `isSuperstable`)
  equals the absolute value of the model's determinant of the reduced Laplacian: the matrix-tree
  theorem carried to the two executable quantities.
-/
open Finset
namespace CF
variable {n : Nat} (G : Graph n) (q : Fin n)

/-- the vertices other than q, in the order the code lists them -/
def offEquiv : Fin (vtilde q).length ≃ Off q :=
  ((vtilde_nodup q).getEquiv _).trans (Equiv.subtypeEquivRight (mem_vtilde q))

theorem lapEntry_eq_redLap (hG : G.WF) (v w : Off q) : lapEntry G v.1 w.1 = redLap G q v w := by
  unfold lapEntry redLap
  by_cases h : v = w
  · rw [h, if_pos rfl, if_pos rfl, hG.val_cast]
  · rw [if_neg h, if_neg (Subtype.val_injective.ne h)]

/-- the rows handed to `detRows` are the reduced Laplacian, listed along `offEquiv` -/
theorem detRows_red (hG : G.WF) :
    detRows (n + 1) ((vtilde q).map fun v => (vtilde q).map fun w => lapEntry G v w) = (redLap G q).det := by
  have hrows : ((vtilde q).map fun v => (vtilde q).map fun w => lapEntry G v w)
      = List.ofFn fun i => List.ofFn fun j => ((redLap G q).submatrix (offEquiv q) (offEquiv q)) i j := by
    rw [← List.ofFn_getElem_eq_map]
    congr 1; funext i
    rw [← List.ofFn_getElem_eq_map]
    congr 1; funext j
    exact lapEntry_eq_redLap G q hG (offEquiv q i) (offEquiv q j)
  rw [hrows, detRows_eq_det _ _ _ ?_, Matrix.det_submatrix_equiv_self]
  have := vtilde_length q
  omega

theorem outdeg_single (hG : G.WF) (v : Fin n) :
    outdeg G (fun w => decide (w = v)) v = (G.rowSum v : Int) := by
  unfold outdeg Graph.rowSum
  rw [sumN_eq]; push_cast
  apply Finset.sum_congr rfl; intro w _
  by_cases h : w = v
  · subst h; simp [hG.loopless w]
  · simp [h]

theorem qreduced_lt_rowSum (hG : G.WF) (D : Fin n → Int) (h : QReduced G q D) (v : Fin n) (hv : v ≠ q) :
    D v < (G.rowSum v : Int) := by
  by_contra hge
  apply h.2 (fun w => decide (w = v))
  refine ⟨⟨v, by simp⟩, by simp [hv.symm], ?_⟩
  intro u hu
  have : u = v := by simpa using hu
  subst this
  rw [outdeg_single G hG u]; omega

/-- T15 for the model's two computations (box enumeration filtered by `is_superstable`; Laplace
    expansion), which the harness compares with an exact determinant of `get_reduced_matrix` -/
theorem superstable_count_eq_det (hG : G.WF) (hc : G.Connected) (hn : 0 < n) :
    ((boxConfigs (vtilde q) (fun v => G.rowSum v)).filter fun c => isSuperstable G q c).length
      = (detRows (n + 1) ((vtilde q).map fun v => (vtilde q).map fun w => lapEntry G v w)).natAbs := by
  classical
  rw [detRows_red G q hG, ← card_superstable_eq_det G q hG hc hn, ← Nat.card_congr (superstableEquiv G q)]
  refine ((boxConfigs_nodup _ _ (vtilde_nodup q)).filter _).length_eq_natCard fun D => ?_
  rw [List.mem_filter, C10.superstable_iff, mem_boxConfigs _ _ (vtilde_nodup q), and_comm]
  simp only [mem_vtilde, ne_eq, not_not, forall_eq]
  exact and_congr_right fun hq =>
    and_iff_right fun v hv => ⟨hq.1 v hv, qreduced_lt_rowSum G q hG D hq v hv⟩

end CF
