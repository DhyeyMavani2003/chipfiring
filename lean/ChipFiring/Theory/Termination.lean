import ChipFiring.Theory.LeastAction
import ChipFiring.Theory.Potential
import ChipFiring.Theory.Ewd
import ChipFiring.Theory.Bfs
/-
  Termination of the model loops on connected graphs: debt concentration (bounded by least
  action against the clearing script K·b) and the firing rounds of EWD (bounded by the potential
  Σ b·D).  Result: for every input there is a fuel from which on the model of `EWD` returns.
-/
open Finset

namespace CF
variable {n : Nat} (G : Graph n)

theorem debtLoop_mono_le {order : List (Fin n)} {f f' : Nat} (hle : f ≤ f') {s s' : DebtSt n}
    (h : debtLoop G order f s = some s') : debtLoop G order f' s = some s' := by
  induction f generalizing f' s with
  | zero => simp [debtLoop] at h
  | succ f ih =>
    obtain ⟨f', rfl⟩ := Nat.exists_eq_add_of_le' (show 1 ≤ f' by omega)
    obtain ⟨DV, _ | ⟨v, rest⟩, tr⟩ := s
    · rw [debtLoop_nil] at h ⊢
      split_ifs at h ⊢
      · exact ih (by omega) h
      · exact h
    · rw [debtLoop_cons] at h ⊢
      split_ifs at h ⊢
      · exact ih (by omega) h
      · exact ih (by omega) h

/-- The measure: `2·|order| + 3` steps of fuel for each borrow still possible (`r` of them, by least
    action against σ), a sweep that finds no debt and the restart, the rest of the current sweep. -/
theorem debtLoop_terminates_aux (hs : ∀ v w, G.adj v w = G.adj w v) (q : Fin n) (order : List (Fin n))
    (hq : q ∉ order) (D0 σ : Fin n → Int) (hσ : ∀ v, 0 ≤ σ v)
    (hclear : ∀ v, v ≠ q → 0 ≤ applyScript G D0 (fun w => -σ w) v) :
    ∀ (f r : Nat) (l : List (Fin n)) (DV : Vec Int n) (todo : List (Fin n)) (tr : List (Vec Int n)),
      ValidRunOn G (· ≠ q) D0 l → DV.get = l.foldl (borrow G) D0 → (∑ v, σ v) - l.length ≤ r →
      todo.length ≤ order.length → (∀ x ∈ todo, x ∈ order) →
      r * (2 * order.length + 3)
        + (if todo.any (fun v => decide (DV.get v < 0)) then 0 else order.length + 1) + todo.length < f →
      ∃ s', debtLoop G order f ⟨DV, todo, tr⟩ = some s' := by
  intro f
  induction f with
  | zero => intro _ _ _ _ _ _ _ _ _ _ hm; omega
  | succ f ih =>
    rintro r l DV (_ | ⟨v, rest⟩) tr hval hDV hr hlen hsub hm
    · rw [debtLoop_nil]
      split
      · rename_i hany
        refine ih r l DV order tr hval hDV hr le_rfl (fun _ h => h) ?_
        rw [if_pos hany]
        simp only [List.any_nil, Bool.false_eq_true, if_false, List.length_nil] at hm
        omega
      · exact ⟨_, rfl⟩
    · rw [debtLoop_cons]
      split
      · rename_i hv
        -- least action: with this borrow the run is still no longer than Σ σ
        have hvq : v ≠ q := fun e => hq (e ▸ hsub v List.mem_cons_self)
        have hval' := (validRunOn_append_iff G (· ≠ q) D0 l v).mpr ⟨hval, hvq, by rw [← hDV]; exact hv⟩
        have hle := validRunOn_length_le G hs _ D0 σ hσ hclear _ hval'
        rw [List.length_append, List.length_singleton] at hle
        obtain ⟨r, rfl⟩ : ∃ r', r = r' + 1 := ⟨r - 1, by omega⟩
        refine ih r (l ++ [v]) (mat (borrow G DV.get v)) (v :: rest) _ hval' (by rw [get_mat, hDV]; simp)
          (by rw [List.length_append, List.length_singleton]; omega) hlen hsub ?_
        rw [Nat.succ_mul r] at hm
        split <;> omega
      · rename_i hv
        refine ih r l DV rest tr hval hDV hr (Nat.le_of_succ_le hlen)
          (fun x hx => hsub x (List.mem_cons_of_mem _ hx)) ?_
        simp only [List.any_cons, decide_eq_false hv, Bool.false_or, List.length_cons] at hm
        omega

/-- `r` bounds the borrows still possible (least action against σ) -/
theorem debtLoop_terminates (hs : ∀ v w, G.adj v w = G.adj w v) (q : Fin n) (order : List (Fin n))
    (hq : q ∉ order) (D0 σ : Fin n → Int) (hσ : ∀ v, 0 ≤ σ v)
    (hclear : ∀ v, v ≠ q → 0 ≤ applyScript G D0 (fun w => -σ w) v) :
    ∀ (r : Nat) (l : List (Fin n)) (DV : Vec Int n) (todo : List (Fin n)) (tr : List (Vec Int n)),
      ValidRunOn G (· ≠ q) D0 l → DV.get = l.foldl (borrow G) D0 → (∑ v, σ v) - l.length ≤ r →
      todo.length ≤ order.length → (∀ x ∈ todo, x ∈ order) →
      ∃ s', debtLoop G order ((r + 1) * (2 * order.length + 3)) ⟨DV, todo, tr⟩ = some s' :=
  fun r l DV todo tr hval hDV hr htl hsub =>
    debtLoop_terminates_aux G hs q order hq D0 σ hσ hclear _ r l DV todo tr hval hDV hr htl hsub
      (by rw [Nat.succ_mul r]; split <;> omega)

theorem sendDebt_terminates (hs : ∀ v w, G.adj v w = G.adj w v) (hc : G.Connected) (q : Fin n)
    (order : List (Fin n)) (hq : q ∉ order) (D : Fin n → Int) :
    ∃ F, ∀ fuel, F ≤ fuel → ∃ s, sendDebt G order fuel D = some s := by
  obtain ⟨σ, hσ, hclear⟩ := exists_clearing_script G hc q D
  have hS : 0 ≤ ∑ v, σ v := Finset.sum_nonneg fun v _ => hσ v
  obtain ⟨s, hsd⟩ := debtLoop_terminates G hs q order hq D σ hσ hclear (∑ v, σ v).toNat [] (mat D) [] []
    trivial (by simp) (by simp [Int.toNat_of_nonneg hS]) (by simp) (by simp)
  refine ⟨((∑ v, σ v).toNat + 1) * (2 * order.length + 3), fun fuel hf => ⟨s, ?_⟩⟩
  unfold sendDebt
  exact debtLoop_mono_le G hf hsd

theorem sendDebt_noop {order : List (Fin n)} {q : Fin n} (hq : q ∉ order) {D : Fin n → Int}
    (hnn : ∀ v, v ≠ q → 0 ≤ D v) {fuel : Nat} (hf : 1 ≤ fuel) :
    ∃ s, sendDebt G order fuel D = some s ∧ s.D = D := by
  obtain ⟨f, rfl⟩ := Nat.exists_eq_add_of_le' hf
  refine ⟨⟨mat D, [], []⟩, ?_, get_mat D⟩
  rw [sendDebt, debtLoop_nil, if_neg]
  simp only [List.any_eq_true, decide_eq_true_eq, not_exists, not_and, get_mat, not_lt]
  exact fun v hv => hnn v fun e => hq (e ▸ hv)

/-- Once the debt phase of the first round returns a divisor out of debt off `q`, each round fires
    a legal set, which lowers the potential: `Σ b·D + 1` rounds suffice. -/
theorem reduceLoop_rounds (hG : G.WF) {q : Fin n} {order : List (Fin n)} (hq : q ∉ order)
    {b : Fin n → Int} (hb : IsSupersolution G q b) {fuel : Nat} (hfuel : 1 ≤ fuel)
    {f : Nat} {D : Fin n → Int} {s : DebtSt n} (hsd : sendDebt G order fuel D = some s)
    (hnn : ∀ v, v ≠ q → 0 ≤ s.D v) (hΦ : ∑ v, b v * s.D v < f) (tr : List (Vec Int n)) (k : Nat) :
    ∃ r, reduceLoop G q order fuel f D tr k = some r := by
  induction f generalizing D s tr k with
  | zero => have := hb.potential_nonneg hnn; omega
  | succ f ih =>
    rw [reduceLoop_succ G hsd]
    split
    · exact ⟨_, rfl⟩
    · rename_i hall
      obtain ⟨hnn', hlt⟩ := legal_fire_step G hG.symm hb
        (burn_unburnt_legal G (not_allF_burnt G hall)) hnn
      obtain ⟨s', hs', hD⟩ := sendDebt_noop G hq hnn' hfuel
      exact ih hs' (by rwa [hD]) (by rw [hD]; omega) _ _

theorem reduceLoop_terminates (hG : G.WF) (hc : G.Connected) (q : Fin n) (order : List (Fin n))
    (hq : q ∉ order) (hcover : ∀ v, v ≠ q → v ∈ order) (D : Fin n → Int) :
    ∃ F, ∀ fuel, F ≤ fuel → ∀ tr k, ∃ r, reduceLoop G q order fuel fuel D tr k = some r := by
  obtain ⟨b, hb⟩ := exists_isSupersolution G hc q
  obtain ⟨F1, hF1⟩ := sendDebt_terminates G hG.symm hc q order hq D
  obtain ⟨s, hs⟩ := hF1 F1 (le_refl _)
  have hnn : ∀ v, v ≠ q → 0 ≤ s.D v := fun v hv =>
    (sendDebt_spec G hG.symm hs).2.1 v (hcover v hv)
  refine ⟨max F1 ((∑ v, b v * s.D v).toNat + 1), fun fuel hf =>
    reduceLoop_rounds G hG hq hb (by omega) (debtLoop_mono_le G (by omega) hs) hnn (by omega)⟩

theorem ewd_terminates (hG : G.WF) (hc : G.Connected) (hn : 0 < n) (hint : Fin n → List (Fin n))
    (Dv : Divisor n) (opt : Bool) :
    ∃ F, ∀ fuel, F ≤ fuel → ∃ r, ewd G hint fuel Dv opt = some (.ok r) := by
  obtain ⟨q, hq⟩ := exists_sink Dv.deg hn
  obtain ⟨F, hF⟩ := reduceLoop_terminates G hG hc q (debtOrder G hint q) (debtOrder_not_mem G hint q)
    (debtOrder_cover G hG.symm hc hint q) Dv.deg
  exact ⟨F, fun fuel hf => ewd_ok_of_reduceLoop G hq (hF fuel hf _ 0)⟩

theorem ewd_returns (hG : G.WF) (hn : 0 < n) (hint : Fin n → List (Fin n)) (fuel : Nat)
    (Dv : Divisor n) (opt : Bool) (m : Nat) (hfuel : m + 1 ≤ fuel)
    (h : ∀ q, sink Dv.deg = some q → (∀ v, v ≠ q → 0 ≤ Dv.deg v) ∧
      ∃ b, IsSupersolution G q b ∧ ∑ v, b v * Dv.deg v ≤ m) :
    ∃ r, ewd G hint fuel Dv opt = some (.ok r) := by
  obtain ⟨q, hq⟩ := exists_sink Dv.deg hn
  obtain ⟨hnn, b, hb, hm⟩ := h q hq
  have ho := debtOrder_not_mem G hint q
  obtain ⟨s, hs, hD⟩ := sendDebt_noop G ho hnn (show 1 ≤ fuel by omega)
  exact ewd_ok_of_reduceLoop G hq (reduceLoop_rounds G hG ho hb (by omega) hs (by rwa [hD])
    (by rw [hD]; omega) _ 0)

theorem winnableOpt_returns (hG : G.WF) (hn : 0 < n) (fuel : Nat) (D : Fin n → Int) (m : Nat)
    (hfuel : m + 1 ≤ fuel)
    (h : ∀ q, sink D = some q → (∀ v, v ≠ q → 0 ≤ D v) ∧
      ∃ b, IsSupersolution G q b ∧ ∑ v, b v * D v ≤ m) :
    ∃ r, winnableOpt G fuel D = some r := by
  obtain ⟨r, hr⟩ := ewd_returns G hG hn (fun _ => []) fuel (Divisor.ofFn D) true m hfuel
    (by rw [Divisor.deg_ofFn]; exact h)
  unfold winnableOpt
  rw [hr]
  exact ⟨_, rfl⟩

end CF
