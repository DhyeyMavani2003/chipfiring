import ChipFiring.Theory.MatrixTree
import ChipFiring.Theory.Complete
import Mathlib.LinearAlgebra.Matrix.SchurComplement
import ChipFiring.Theory.SSCount
import ChipFiring.Theory.Parking
/-
  Pollak's count: `generate_parking_functions(m)` lists (m+1)^(m−1) sequences.  The list is
  duplicate-free and holds exactly the parking functions of length m; these correspond to the
  superstables of K_(m+1), which the matrix-tree theorem and Cayley's determinant count.
-/
open Finset

theorem List.Nodup.exists_map_eq {α β : Type*} [DecidableEq α] [Inhabited β] {l : List α} (hnd : l.Nodup)
    (s : List β) (h : s.length = l.length) : ∃ f : α → β, l.map f = s := by
  refine ⟨fun a => s.getD (l.idxOf a) default, List.ext_getElem (by rw [List.length_map, h]) fun i h1 h2 => ?_⟩
  rw [List.getElem_map, hnd.idxOf_getElem]
  simp [h2]

namespace CF

section Cayley
open Matrix
variable {n : Nat} (G : Graph n) (q : Fin n)

theorem card_off : Fintype.card (Off q) = n - 1 := by
  rw [Fintype.card_subtype_compl, Fintype.card_fin]; simp

theorem redLap_complete (hK : IsComplete G) :
    redLap G q = (n : Int) • (1 : Matrix (Off q) (Off q) Int) - Matrix.of fun _ _ => (1 : Int) := by
  ext v w
  rw [redLap_apply G q (fun v => by simp [hK v v]), hK.sum_adj, hK v.1 w.1]
  simp only [Matrix.sub_apply, Matrix.smul_apply, Matrix.one_apply, Matrix.of_apply, smul_eq_mul]
  by_cases h : v = w
  · simp [h]
  · simp [h, Subtype.val_injective.ne h]

/-- Cayley's count, determinant form -/
theorem det_complete (hK : IsComplete G) (hn : 2 ≤ n) : (redLap G q).det = (n : Int) ^ (n - 2) := by
  rw [redLap_complete G q hK]
  set J : Matrix (Off q) (Off q) Int := Matrix.of fun _ _ => 1 with hJ
  have hk : ((n - 1 : Nat) : Int) = (n : Int) - 1 := by omega
  have hJJ : J * J = ((n : Int) - 1) • J := by
    ext v w
    simp only [J, Matrix.mul_apply, Matrix.smul_apply, Matrix.of_apply, mul_one, Finset.sum_const, Finset.card_univ,
      card_off, nsmul_eq_mul, smul_eq_mul, hk]
  have hdetJ : (1 + J).det = n := by
    have : J = replicateCol Unit (fun _ => (1 : Int)) * replicateRow Unit (fun _ => (1 : Int)) := by
      ext v w
      simp [J, Matrix.mul_apply]
    rw [this, det_one_add_replicateCol_mul_replicateRow]
    simp only [dotProduct, mul_one, Finset.sum_const, Finset.card_univ, card_off, nsmul_eq_mul, hk]
    ring
  -- (n·1 − J)(1 + J) = n·1, since J² = (n − 1)·J
  have hmul : ((n : Int) • 1 - J) * (1 + J) = (n : Int) • 1 := by
    rw [sub_mul, mul_add, mul_add, hJJ, mul_one, mul_one, smul_mul_assoc, one_mul, sub_smul, one_smul]
    abel
  have h := congrArg Matrix.det hmul
  rw [det_mul, hdetJ, det_smul, det_one, card_off, mul_one, show n - 1 = (n - 2) + 1 by omega, pow_succ] at h
  exact mul_right_cancel₀ (by omega) h
end Cayley

theorem mem_allSeqs (N k : Nat) (s : List Int) :
    s ∈ allSeqs N k ↔ s.length = k ∧ ∀ x ∈ s, 1 ≤ x ∧ x ≤ (N : Int) := by
  fun_induction allSeqs N k generalizing s with
  | case1 =>
    rw [List.mem_singleton, List.length_eq_zero_iff]
    exact ⟨fun h => ⟨h, by simp [h]⟩, fun h => h.1⟩
  | case2 k ih =>
    simp only [List.mem_flatMap, List.mem_range, List.mem_map, ih]
    constructor
    · rintro ⟨i, hi, t, ht, rfl⟩
      exact ⟨by simp [ht.1], List.forall_mem_cons.mpr ⟨⟨by omega, by omega⟩, ht.2⟩⟩
    · rintro ⟨hl, hr⟩
      obtain ⟨a, t, rfl⟩ := List.exists_cons_of_length_eq_add_one hl
      obtain ⟨ha, hr⟩ := List.forall_mem_cons.mp hr
      exact ⟨(a - 1).toNat, by omega, t, ⟨by simpa using hl, hr⟩,
        by rw [Int.toNat_of_nonneg (by omega), sub_add_cancel]⟩

theorem allSeqs_nodup (N : Nat) : ∀ k, (allSeqs N k).Nodup
  | 0 => List.nodup_singleton _
  | k + 1 => by
    rw [allSeqs, List.nodup_flatMap]
    refine ⟨fun i _ => (allSeqs_nodup N k).map fun a b h => (List.cons.inj h).2,
      List.Pairwise.imp (fun {i j} hij => ?_) List.nodup_range⟩
    rw [Function.onFun, List.disjoint_left]
    intro s hs hs'
    obtain ⟨t, -, rfl⟩ := List.mem_map.mp hs
    obtain ⟨t', -, h⟩ := List.mem_map.mp hs'
    have := (List.cons.inj h).1
    exact hij (by omega)

theorem isParking_some_eq_none (s : List Int) (m : Int) (h : (s.length : Int) = m) :
    isParkingFunction s (some m) = isParkingFunction s none := by
  unfold isParkingFunction
  simp [h]

theorem parking_le_length (s : List Int) (h : isParkingFunction s none = true) : ∀ x ∈ s, 1 ≤ x ∧ x ≤ (s.length : Int) := by
  obtain ⟨h1, hc⟩ := (isParkingFunction_iff s).mp h
  exact fun x hx => ⟨h1 x hx, hc.le_length x hx⟩

theorem generateParking_nodup (k : Int) : (generateParking k).Nodup := by
  fun_cases generateParking k with
  | case1 => exact List.nodup_nil
  | case2 => exact (allSeqs_nodup _ _).filter _

theorem mem_generateParking (m : Nat) (hm : 1 ≤ m) (s : List Int) :
    s ∈ generateParking (m : Int) ↔ s.length = m ∧ isParkingFunction s none = true := by
  unfold generateParking
  rw [if_neg (by omega), Int.toNat_natCast, List.mem_filter, mem_allSeqs, and_assoc]
  refine and_congr_right fun h1 => ?_
  rw [isParking_some_eq_none s m (by omega)]
  exact ⟨fun h => h.2, fun h2 => ⟨fun x hx => h1 ▸ parking_le_length s h2 x hx, h2⟩⟩

/-- the correspondence of `complete_superstable_iff_parking` is onto -/
theorem card_parking_eq_card_superstable {n : Nat} (G : Graph n) (hK : IsComplete G) (q : Fin n) :
    Nat.card {s : List Int // s.length = (vtilde q).length ∧ isParkingFunction s none = true}
      = Nat.card {c : Off q → Int // Superstable G q c} := by
  symm
  let toSeq : (Off q → Int) → List Int := fun c => (vtilde q).map fun v => ext q c 0 v + 1
  have hss : ∀ c : Off q → Int, Superstable G q c ↔ isParkingFunction (toSeq c) none = true := fun c =>
    (C10.superstable_iff G q _).symm.trans (complete_superstable_iff_parking G hK q (ext q c 0))
  refine Nat.card_congr (Equiv.ofBijective (fun c => ⟨toSeq c.1, List.length_map _, (hss c.1).mp c.2⟩) ⟨?_, ?_⟩)
  · rintro ⟨c1, h1⟩ ⟨c2, h2⟩ he
    refine Subtype.ext (funext fun v => ?_)
    have := List.map_inj_left.mp (congrArg Subtype.val he) v.1 ((mem_vtilde q v.1).mpr v.2)
    rwa [ext_off, ext_off, add_left_inj] at this
  · rintro ⟨s, hlen, hpark⟩
    obtain ⟨f, hf⟩ := (vtilde_nodup q).exists_map_eq s hlen
    have hseq : toSeq (res q fun v => f v - 1) = s := by
      rw [← hf]
      refine List.map_congr_left fun v hv => ?_
      rw [ext_off q _ 0 ⟨v, (mem_vtilde q v).mp hv⟩]
      exact sub_add_cancel (f v) 1
    exact ⟨⟨_, (hss _).mpr (hseq ▸ hpark)⟩, Subtype.ext hseq⟩

/-- Pollak's count -/
theorem generateParking_length (m : Nat) (hm : 1 ≤ m) :
    (generateParking (m : Int)).length = (m + 1) ^ (m - 1) := by
  classical
  have hK := completeGraph_isComplete (m + 1)
  let q : Fin (m + 1) := Fin.last m
  have h := card_parking_eq_card_superstable _ hK q
  rw [show (vtilde q).length = m by have := vtilde_length q; omega] at h
  rw [(generateParking_nodup _).length_eq_natCard (mem_generateParking m hm), h,
    card_superstable_eq_det _ q (completeGraph_wf _) hK.connected (by omega), det_complete _ q hK (by omega),
    Int.natAbs_pow, Int.natAbs_natCast]
  rfl

/-- the closed form the library publishes, for every argument (both sides are 0 below 1) -/
theorem generateParking_count (k : Int) : ((generateParking k).length : Int) = parkingCount k := by
  unfold parkingCount
  split_ifs with h
  · simp [generateParking, h]
  · lift k to Nat using by omega
    rw [generateParking_length k (by omega)]
    simp

end CF
