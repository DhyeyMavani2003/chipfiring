import ChipFiring.Theory.Reduced
import Mathlib.LinearAlgebra.Matrix.Nondegenerate
import Mathlib.Analysis.Matrix.PosDef
/-
  The reduced Laplacian of a multigraph with a sink, as a matrix over the vertices other than the
  sink.  Over any commutative ring it acts as the Laplacian does on vectors extended by 0 at the
  sink (`redLap_map_mulVec`); over ℝ that gives the Dirichlet form, hence positive definiteness on a
  connected graph, hence `0 < det`, hence injectivity over ℤ.
-/
open Finset
namespace CF
variable {n : Nat} (G : Graph n)

/-- `L·s` (so that `applyScript G D s = D − lap G s`) -/
def lap (s : Fin n → Int) : Fin n → Int := fun w => ∑ v, (G.adj w v : Int) * (s w - s v)

theorem applyScript_eq_sub_lap (D s : Fin n → Int) : applyScript G D s = fun w => D w - lap G s w := rfl

theorem lap_shift (s : Fin n → Int) (c : Int) : lap G (fun v => s v - c) = lap G s := by
  funext w; unfold lap; apply Finset.sum_congr rfl; intro v _; ring

variable (q : Fin n)

/-- vertices other than the sink -/
abbrev Off (q : Fin n) := {v : Fin n // v ≠ q}

/-- extend a configuration by the value `x` at the sink -/
def ext (c : Off q → Int) (x : Int) : Fin n → Int := fun v => if h : v = q then x else c ⟨v, h⟩
def res (D : Fin n → Int) : Off q → Int := fun v => D v.1

theorem ext_off (c : Off q → Int) (x : Int) (v : Off q) : ext q c x v.1 = c v := by
  unfold ext; rw [dif_neg v.2]
theorem ext_q (c : Off q → Int) (x : Int) : ext q c x q = x := by unfold ext; rw [dif_pos rfl]
theorem res_ext (c : Off q → Int) (x : Int) : res q (ext q c x) = c := by funext v; exact ext_off q c x v
theorem ext_res (D : Fin n → Int) : ext q (res q D) (D q) = D := by
  funext v; unfold ext res; by_cases h : v = q
  · rw [dif_pos h, h]
  · rw [dif_neg h]

def redLap : Matrix (Off q) (Off q) Int := fun v w =>
  if v = w then ∑ u, (G.adj v.1 u : Int) else - (G.adj v.1 w.1 : Int)

section Ring
variable {R : Type*} [CommRing R]

/-- extension by 0 at the sink, over any ring (`ext q c 0` over ℤ) -/
def ext0 (x : Off q → R) : Fin n → R := fun v => if h : v = q then 0 else x ⟨v, h⟩

theorem ext0_off (x : Off q → R) (v : Off q) : ext0 q x v.1 = x v := by unfold ext0; rw [dif_neg v.2]
theorem ext0_q (x : Off q → R) : ext0 q x q = 0 := by unfold ext0; rw [dif_pos rfl]

theorem redLap_apply (hl : ∀ v, G.adj v v = 0) (v w : Off q) :
    redLap G q v w = (if v = w then ∑ u, (G.adj v.1 u : Int) else 0) - (G.adj v.1 w.1 : Int) := by
  unfold redLap
  split_ifs with h
  · rw [← h, hl, Nat.cast_zero, sub_zero]
  · rw [zero_sub]

/-- over any ring, `redLap · x` is `L · (x extended by 0)` off q -/
theorem redLap_map_mulVec (hl : ∀ v, G.adj v v = 0) (x : Off q → R) (v : Off q) :
    ((redLap G q).map (Int.cast : ℤ → R)).mulVec x v
      = ∑ u, (G.adj v.1 u : R) * (ext0 q x v.1 - ext0 q x u) := by
  rw [Fintype.sum_eq_add_sum_subtype_ne _ q]
  simp only [Matrix.mulVec, dotProduct, Matrix.map_apply, redLap_apply G q hl, ext0_q, ext0_off, sub_zero]
  push_cast
  rw [Fintype.sum_eq_add_sum_subtype_ne (fun u => (G.adj v.1 u : R)) q]
  simp only [sub_mul, mul_sub, ite_mul, zero_mul, Finset.sum_sub_distrib, Finset.sum_ite_eq, mem_univ, if_true,
    ← Finset.sum_mul]
  ring

end Ring

theorem redLap_mulVec (hl : ∀ v, G.adj v v = 0) (t : Off q → Int) :
    (redLap G q).mulVec t = res q (lap G (ext q t 0)) := by
  funext v
  have h := redLap_map_mulVec G q hl t v
  rwa [show (redLap G q).map (Int.cast : ℤ → ℤ) = redLap G q from Matrix.ext fun _ _ => Int.cast_id] at h

/-- the Dirichlet form of a symmetric weight: 2·⟨y, L y⟩ = Σ a (y_w − y_v)² -/
theorem two_mul_energy {R : Type*} [CommRing R] (a : Fin n → Fin n → R) (hs : ∀ v w, a v w = a w v)
    (y : Fin n → R) :
    2 * ∑ w, y w * ∑ v, a w v * (y w - y v) = ∑ w, ∑ v, a w v * (y w - y v) ^ 2 := by
  have h1 : ∑ w, y w * ∑ v, a w v * (y w - y v) = ∑ w, ∑ v, a w v * (y w * (y w - y v)) :=
    Finset.sum_congr rfl fun w _ => by
      rw [Finset.mul_sum]; exact Finset.sum_congr rfl fun v _ => by ring
  have h2 : ∑ w, ∑ v, a w v * (y w * (y w - y v)) = ∑ w, ∑ v, a w v * (y v * (y v - y w)) := by
    rw [Finset.sum_comm]
    exact Finset.sum_congr rfl fun w _ => Finset.sum_congr rfl fun v _ => by rw [hs]
  rw [two_mul, h1]
  nth_rewrite 2 [h2]
  simp only [← Finset.sum_add_distrib]
  exact Finset.sum_congr rfl fun w _ => Finset.sum_congr rfl fun v _ => by ring

theorem redLap_posDef (hG : G.WF) (hc : G.Connected) :
    ((redLap G q).map (Int.cast : ℤ → ℝ)).PosDef := by
  apply Matrix.PosDef.of_dotProduct_mulVec_pos
  · ext v w
    simp only [Matrix.conjTranspose_apply, Matrix.map_apply, star_trivial, redLap_apply G q hG.loopless,
      hG.symm w.1 v.1]
    by_cases h : v = w
    · rw [h]
    · rw [if_neg h, if_neg (Ne.symm h)]
  · intro x hx
    set y := ext0 q x with hy
    have hq : star x ⬝ᵥ ((redLap G q).map (Int.cast : ℤ → ℝ)).mulVec x
        = ∑ w, y w * ∑ v, (G.adj w v : ℝ) * (y w - y v) := by
      rw [Fintype.sum_eq_add_sum_subtype_ne _ q, hy, ext0_q, zero_mul, zero_add]
      exact Finset.sum_congr rfl fun v _ => by
        rw [redLap_map_mulVec G q hG.loopless x v, ext0_off, star_trivial]
    have h2 := two_mul_energy (fun v w => (G.adj v w : ℝ)) (fun v w => by rw [hG.symm]) y
    have hnn : ∀ w ∈ (univ : Finset (Fin n)), ∀ v ∈ (univ : Finset (Fin n)),
        0 ≤ (G.adj w v : ℝ) * (y w - y v) ^ 2 :=
      fun w _ v _ => mul_nonneg (Nat.cast_nonneg _) (sq_nonneg _)
    have hnn' : ∀ w ∈ (univ : Finset (Fin n)), 0 ≤ ∑ v, (G.adj w v : ℝ) * (y w - y v) ^ 2 :=
      fun w hw => Finset.sum_nonneg (hnn w hw)
    rcases (Finset.sum_nonneg hnn').lt_or_eq with hpos | hzero
    · linarith
    · -- zero energy: y is equal across every edge, hence constant, hence 0
      refine absurd (funext fun v => ?_) hx
      rw [← ext0_off q x v, ← hy]
      refine hc.induction q (P := fun v => y v = 0) (ext0_q q x) (fun v w hvw hw => ?_) v.1
      have h3 := (Finset.sum_eq_zero_iff_of_nonneg hnn').mp hzero.symm v (mem_univ v)
      have h4 := (Finset.sum_eq_zero_iff_of_nonneg (hnn v (mem_univ v))).mp h3 w (mem_univ w)
      have h5 : (G.adj v w : ℝ) ≠ 0 := by exact_mod_cast hvw.ne'
      have h6 := pow_eq_zero_iff two_ne_zero |>.mp ((mul_eq_zero.mp h4).resolve_left h5)
      linarith

theorem redLap_det_pos (hG : G.WF) (hc : G.Connected) : 0 < (redLap G q).det := by
  have h := (redLap_posDef G q hG hc).det_pos
  rw [← Int.cast_det] at h
  exact_mod_cast h

theorem redLap_injective (hG : G.WF) (hc : G.Connected) : Function.Injective (redLap G q).mulVec :=
  Matrix.mulVec_injective_of_det_ne_zero (redLap_det_pos G q hG hc).ne'

end CF
