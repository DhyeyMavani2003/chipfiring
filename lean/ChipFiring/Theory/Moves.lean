import ChipFiring.Theory.LinEq
import ChipFiring.Theory.Ref
/-
  The chip moves over histories: what an accepted operation can do to the degrees (`Moved`), hence
  what every history preserves; the constructors' loops and the cached total.
-/
open Finset

namespace CF
variable {n : Nat} (G : Graph n)

theorem sum_map_chipAt (l : List (Fin n)) : (l.map chipAt).sum = fun v => (l.count v : Int) := by
  induction l with
  | nil => rfl
  | cons a l ih =>
    rw [List.map_cons, List.sum_cons, ih]
    funext v
    by_cases h : a = v <;> simp [chipAt, h, eq_comm, add_comm]

theorem foldl_lend_eq (hs : ∀ v w, G.adj v w = G.adj w v) (l : List (Fin n)) (D : Fin n → Int) :
    l.foldl (lend G) D = applyScript G D (fun v => (l.count v : Int)) := by
  rw [← sum_map_chipAt, ← foldl_applyScript, List.foldl_map]
  simp only [← lend_eq G hs]

theorem indicator_setOf (l : List (Fin n)) (hl : l.Nodup) :
    indicator (setOf l) = fun v => (l.count v : Int) := by
  funext v
  unfold indicator setOf
  by_cases hv : v ∈ l
  · have : l.count v = 1 := List.count_eq_one_of_mem hl hv
    simp [hv, this]
  · have : l.count v = 0 := List.count_eq_zero_of_not_mem hv
    simp [hv, this]

theorem fireSet_eq_foldl_lend (hs : ∀ v w, G.adj v w = G.adj w v) (l : List (Fin n)) (hl : l.Nodup)
    (D : Fin n → Int) : fireSet G (setOf l) D = l.foldl (lend G) D := by
  rw [fireSet_eq G hs, foldl_lend_eq G hs, indicator_setOf l hl]

theorem deg_transfer (D : Fin n → Int) (a b : Fin n) (k : Int) : deg (transfer D a b k) = deg D := by
  unfold deg transfer
  simp only [Finset.sum_add_distrib, Finset.sum_sub_distrib]
  simp

/-- the degree vectors an accepted divisor / configuration operation can leave behind -/
inductive Moved (D : Fin n → Int) : (Fin n → Int) → Prop
  | same : Moved D D
  | lend (v : Fin n) : Moved D (lend G D v)
  | borrow (v : Fin n) : Moved D (borrow G D v)
  | fire (S : Fin n → Bool) : Moved D (fireSet G S D)
  | transfer (a b : Fin n) (k : Int) : Moved D (transfer D a b k)

variable {G}

theorem Moved.deg_eq (hs : ∀ v w, G.adj v w = G.adj w v) {D D' : Fin n → Int} (h : Moved G D D') :
    deg D' = deg D := by
  cases h with
  | same => rfl
  | lend v => rw [lend_eq G hs]; exact deg_applyScript G hs D _
  | borrow v => rw [borrow_eq G hs]; exact deg_applyScript G hs D _
  | fire S => rw [fireSet_eq G hs]; exact deg_applyScript G hs D _
  | transfer a b k => exact deg_transfer D a b k

theorem dstep_moved {q : Option (Fin n)} {D D' : Vec Int n} {o : DOp} {r : Option Int}
    (h : dstep G q D o = .ok (D', r)) : Moved G D.get D'.get := by
  cases o with
  | cfgDegreeAt v | cfgSuperstable | cfgLegal S | cfgNonNeg =>
    -- a query answers or refuses; where it answers it returns `D` itself
    simp only [dstep] at h
    repeat' split at h
    all_goals cases h
    all_goals exact .same
  | swap a b =>
    simp only [dstep] at h
    repeat' split at h
    all_goals cases h
    · rw [get_mat]; exact .transfer _ _ _
    · rw [get_mat]; exact .transfer _ _ _
    · exact .same
  | lend v | borrow v | fire S | transfer a b k | cfgLend v | cfgBorrow v | cfgFire S =>
    -- a move refuses or returns `mat` of the move it is named after, applied to `D.get`; under
    -- `with_reducible` the moves stay folded, so only the constructor that fits is tried in earnest
    simp only [dstep] at h
    repeat' split at h
    all_goals cases h
    all_goals rw [get_mat]
    all_goals with_reducible constructor

theorem drun_inv {P : (Fin n → Int) → Prop} (hP : ∀ D D', Moved G D D' → P D → P D')
    (q : Option (Fin n)) (ops : List DOp) (D : Vec Int n) (hD : P D.get) :
    ∀ x ∈ drun G q D ops, P x.2.1.get := by
  fun_induction drun G q D ops with
  | case1 => exact nofun
  | case2 D o os D' r hstep ih =>
    have hD' := hP _ _ (dstep_moved hstep) hD
    exact List.forall_mem_cons.mpr ⟨hD', ih hD'⟩
  | case3 D o os u hstep ih => exact List.forall_mem_cons.mpr ⟨hD, ih hD⟩

variable (G)

theorem hasDup_false_iff (l : List Nat) : Divisor.hasDup l = false ↔ l.Nodup := by
  induction l with
  | nil => simp [Divisor.hasDup]
  | cons a l ih => simp [Divisor.hasDup, ih]

theorem scriptNew_go (s : Fin n → Int) (vs : List (Fin n)) (hnd : vs.Nodup) :
    ∀ t : Vec Int n, ∃ t', scriptNew.go (vs.map fun v => (v.1, s v)) t = .ok t' ∧
      ∀ w, t'.get w = if w ∈ vs then s w else t.get w := by
  induction vs with
  | nil => intro t; exact ⟨t, rfl, by simp⟩
  | cons v vs ih =>
    intro t
    simp only [List.map_cons, scriptNew.go, ref?_val]
    obtain ⟨t', h1, h2⟩ := ih (List.nodup_cons.mp hnd).2 (mat fun w => if w = v then s v else t.get w)
    refine ⟨t', h1, fun w => ?_⟩
    rw [h2 w]
    by_cases hw : w ∈ vs
    · simp [hw]
    · by_cases hwv : w = v
      · subst hwv; simp [hw]
      · simp [hw, hwv]

/-- the divisor constructor's loop is the script constructor's loop on the degrees, with the
    values summed into the cached total -/
theorem Divisor.new_go_eq (es : List (Nat × Int)) (d : Divisor n) :
    Divisor.new.go es d =
      (scriptNew.go es d.degV).map fun t => ⟨t, d.total + (es.map (·.2)).sum⟩ := by
  fun_induction Divisor.new.go es d with
  | case1 d => simp [scriptNew.go, Except.map]
  | case2 i k es d v hv ih =>
    rw [ih]
    simp only [scriptNew.go, hv, Divisor.deg, List.map_cons, List.sum_cons, Int.add_assoc]
  | case3 i k es d hv => simp only [scriptNew.go, hv]; rfl

theorem Divisor.new_go_total (es : List (Nat × Int)) (d d' : Divisor n)
    (hfresh : ∀ e ∈ es, ∀ v, ref? n e.1 = some v → d.deg v = 0)
    (hnd : (es.map (·.1)).Nodup) (htot : d.total = CF.deg d.deg)
    (h : Divisor.new.go es d = .ok d') : d'.total = CF.deg d'.deg := by
  fun_induction Divisor.new.go es d with
  | case1 d => cases h; exact htot
  | case2 i k es d v hv ih =>
    simp only [List.map_cons, List.nodup_cons] at hnd
    apply ih _ hnd.2 _ h
    · intro e he w hw
      have hne : w ≠ v := by
        rintro rfl
        have := (ref?_eq_some.mp hw).symm.trans (ref?_eq_some.mp hv)
        exact hnd.1 (this ▸ List.mem_map_of_mem (f := (·.1)) he)
      simp only [Divisor.deg, get_mat, hne, if_false]
      exact hfresh e (List.mem_cons_of_mem _ he) w hw
    · simp only [Divisor.deg, get_mat]
      have h0 := hfresh (i, k) (List.mem_cons_self) v hv
      unfold CF.deg
      have : ∑ w, (if w = v then k else d.degV.get w) = ∑ w, d.degV.get w + k := by
        have e1 : ∀ w, (if w = v then k else d.degV.get w) = d.degV.get w + if w = v then k else 0 := by
          intro w
          split
          · rename_i hw; rw [hw, ← Divisor.deg, h0, zero_add]
          · rw [add_zero]
        simp only [e1, Finset.sum_add_distrib, Finset.sum_ite_eq', Finset.mem_univ, if_true]
      rw [this, htot]; rfl
  | case3 => cases h

theorem Divisor.new_total (entries : List (Nat × Int)) (d : Divisor n) (h : Divisor.new entries = .ok d) :
    d.total = CF.deg d.deg := by
  unfold Divisor.new at h
  split at h
  · exact absurd h (by simp)
  · rename_i hd
    have hnd := (hasDup_false_iff _).mp (by simpa using hd)
    apply Divisor.new_go_total entries _ d _ hnd _ h
    · intro e _ v _; simp [Divisor.deg]
    · simp [Divisor.deg, CF.deg]

theorem Divisor.total_ofFn (f : Fin n → Int) : (Divisor.ofFn f).total = CF.deg f := sumZ_eq f

theorem Divisor.total_eq_deg_ofFn (f : Fin n → Int) : (Divisor.ofFn f).total = CF.deg (Divisor.ofFn f).deg := by
  rw [Divisor.deg_ofFn, Divisor.total_ofFn]

theorem lapEntry_eq (hG : G.WF) (v w : Fin n) :
    lapEntry G v w = (if w = v then (G.val v : Int) else 0) - (G.adj v w : Int) := by
  unfold lapEntry
  by_cases h : v = w
  · subst h; simp [hG.loopless v]
  · simp [h, Ne.symm h]

/-- `apply(D, s)` is `D − L·s` -/
theorem lapApply_eq (hG : G.WF) (D s : Fin n → Int) : lapApply G D s = applyScript G D s := by
  funext v
  simp only [lapApply, applyScript, sumZ_eq, lapEntry_eq G hG, sub_mul, ite_mul, zero_mul, mul_sub,
    Finset.sum_sub_distrib, Finset.sum_ite_eq', Finset.mem_univ, if_true, ← Finset.sum_mul, hG.val_cast v]

/-! divisor arithmetic is that of the group `Fin n → ℤ`, rebuilt through `ofFn` -/

theorem dAdd_true (A B : Fin n → Int) : dAdd true A B = .ok (Divisor.ofFn (A + B)) := rfl
theorem dSub_true (A B : Fin n → Int) : dSub true A B = .ok (Divisor.ofFn (A - B)) := rfl
theorem dNeg_eq (A : Fin n → Int) : dNeg A = Divisor.ofFn (-A) := rfl
theorem dSmul_eq (k : Int) (A : Fin n → Int) : dSmul k A = Divisor.ofFn (k • A) := rfl
theorem dZero_eq : (dZero : Divisor n) = Divisor.ofFn 0 := rfl

end CF
