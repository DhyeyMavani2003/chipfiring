import ChipFiring.Model.TxtFile
import ChipFiring.Theory.Txt
/-
  The TXT file layer round-trips: what `to_txt` writes for names/edges/records the format can
  represent is read back by `read_txt` as exactly those names, edges and records.
  `Fixed` (non-empty, `strip()` leaves it alone) passes from fields to joined fields and record
  lines.  Every written line but the first is `LineOK`; the names line of a graph without vertices
  ends in a blank, so the first line is only `Written`.
-/
namespace CF.Txt

theorem pyNatGo_digits (l : Str) (hl : ∀ c ∈ l, c.isDigit = true) (acc : Nat) (last : Bool)
    (h : l ≠ [] ∨ last = true) : pyNatGo l acc last = some (Nat.ofDigitChars 10 l acc) := by
  fun_induction pyNatGo l acc last with
  | case1 acc => rw [Nat.ofDigitChars_nil]
  | case2 acc last hlast => exact absurd (h.resolve_left fun h => h rfl) hlast
  | case3 c cs acc last hc ih =>
    rw [ih (fun x hx => hl x (List.mem_cons_of_mem _ hx)) (Or.inr rfl), Nat.ofDigitChars_cons]
  | case4 c cs acc last hc => exact absurd (hl c List.mem_cons_self) hc
  | case5 c cs acc last hc => exact absurd (hl c List.mem_cons_self) hc

theorem pyNat_toDigits (n : Nat) : pyNatGo (Nat.toDigits 10 n) 0 false = some n := by
  rw [pyNatGo_digits _ (isDigit_of_mem_toDigits n) 0 false (Or.inl Nat.toDigits_ne_nil), Nat.ofDigitChars_ten_toDigits]

/-- `int(str(k)) == k` for the model of `int()` -/
theorem pyInt_repr (k : Int) : pyInt? k.repr.toList = some k := by
  cases k with
  | ofNat n =>
    -- the text starts with a digit, not a sign
    rw [repr_ofNat]
    have hd := pyNat_toDigits n
    cases hL : Nat.toDigits 10 n with
    | nil => exact absurd hL Nat.toDigits_ne_nil
    | cons c r =>
      have hc : c.isDigit = true := isDigit_of_mem_toDigits n c (hL ▸ List.mem_cons_self)
      have h1 : c ≠ '-' := by rintro rfl; exact absurd hc (by decide)
      have h2 : c ≠ '+' := by rintro rfl; exact absurd hc (by decide)
      rw [hL] at hd
      simp only [pyInt?, h1, h2, if_false, hd]
      rfl
  | negSucc n =>
    rw [repr_negSucc]
    simp only [pyInt?, if_true, pyNat_toDigits]
    rfl

theorem normNL_id (s : Str) (h : '\r' ∉ s) : normNL false s = s := by
  induction s with
  | nil => rfl
  | cons c cs ih =>
    have hc : c ≠ '\r' := fun e => h (e ▸ List.mem_cons_self)
    have := ih (fun hm => h (List.mem_cons_of_mem _ hm))
    by_cases hn : c = '\n'
    · simp [normNL, hn, this]
    · simp [normNL, hc, hn, this]

theorem cr_not_mem_writeText (ls : List Str) (hr : ∀ l ∈ ls, '\r' ∉ l) : '\r' ∉ writeText ls := by
  induction ls with
  | nil => exact List.not_mem_nil
  | cons l ls ih =>
    simp only [writeText, List.mem_append, List.mem_cons, not_or]
    exact ⟨hr l List.mem_cons_self, by decide, ih fun m hm => hr m (List.mem_cons_of_mem _ hm)⟩

theorem splitOn_writeText (ls : List Str) (h : ∀ l ∈ ls, '\n' ∉ l) :
    splitOn '\n' (writeText ls) = ls ++ [[]] := by
  induction ls with
  | nil => simp [writeText, splitOn]
  | cons l ls ih =>
    rw [writeText, splitOn_append '\n' l _ (h l List.mem_cons_self),
      ih (fun m hm => h m (List.mem_cons_of_mem _ hm))]
    rfl

theorem stripPy_nil : stripPy [] = [] := rfl

/-- a line the reader keeps: it is one line, and something is left of it after `strip()` -/
structure Written (l : Str) : Prop where
  nl : '\n' ∉ l
  cr : '\r' ∉ l
  ne : stripPy l ≠ []

theorem readLines_writeText (ls : List Str) (h : ∀ l ∈ ls, Written l) : readLines (writeText ls) = ls.map stripPy := by
  unfold readLines
  rw [normNL_id _ (cr_not_mem_writeText ls fun l hl => (h l hl).cr), splitOn_writeText ls fun l hl => (h l hl).nl,
    List.map_append, List.filter_append]
  have h1 : (ls.map stripPy).filter (fun l => !l.isEmpty) = ls.map stripPy :=
    List.filter_eq_self.mpr fun l hl => by
      obtain ⟨m, hm, rfl⟩ := List.mem_map.mp hl
      simpa [List.isEmpty_iff] using (h m hm).ne
  rw [h1]
  simp [stripPy_nil]

/-- the same lines written with `\r\n` line ends (a file that went through another platform's text
    mode): text-mode reading sees the same text -/
def writeTextCRLF : List Str → Str
  | [] => []
  | l :: ls => l ++ '\r' :: '\n' :: writeTextCRLF ls

theorem normNL_line (l rest : Str) (b : Bool) (hr : '\r' ∉ l) (hn : '\n' ∉ l) :
    normNL b (l ++ '\r' :: '\n' :: rest) = l ++ '\n' :: normNL false rest := by
  induction l generalizing b with
  | nil => simp [normNL]
  | cons c cs ih =>
    have hc1 : c ≠ '\r' := fun e => hr (e ▸ List.mem_cons_self)
    have hc2 : c ≠ '\n' := fun e => hn (e ▸ List.mem_cons_self)
    simp only [List.cons_append, normNL, hc1, hc2, if_false]
    rw [ih false (fun hm => hr (List.mem_cons_of_mem _ hm)) (fun hm => hn (List.mem_cons_of_mem _ hm))]

theorem normNL_crlf (ls : List Str) (hn : ∀ l ∈ ls, '\n' ∉ l) (hr : ∀ l ∈ ls, '\r' ∉ l) :
    normNL false (writeTextCRLF ls) = writeText ls := by
  induction ls with
  | nil => rfl
  | cons l ls ih =>
    rw [writeTextCRLF, writeText, normNL_line l _ false (hr l List.mem_cons_self) (hn l List.mem_cons_self),
      ih (fun m hm => hn m (List.mem_cons_of_mem _ hm)) (fun m hm => hr m (List.mem_cons_of_mem _ hm))]

theorem readLines_crlf (ls : List Str) (hn : ∀ l ∈ ls, '\n' ∉ l) (hr : ∀ l ∈ ls, '\r' ∉ l) :
    readLines (writeTextCRLF ls) = readLines (writeText ls) := by
  unfold readLines
  rw [normNL_crlf ls hn hr, normNL_id _ (cr_not_mem_writeText ls hr)]

/-- nothing for `strip()` to remove at either end, and something there -/
def Fixed (s : Str) : Prop := s ≠ [] ∧ s.dropWhile isSpacePy = s ∧ s.reverse.dropWhile isSpacePy = s.reverse

theorem Fixed.strip {s : Str} (h : Fixed s) : stripPy s = s := by
  unfold stripPy
  rw [h.2.1, h.2.2, List.reverse_reverse]

/-- a stripped, non-empty string: `strip` only shortens, in two steps, so neither step removed anything -/
theorem fixed_of_strip {f : Str} (h : stripPy f = f) (hne : f ≠ []) : Fixed f := by
  have hd : f.dropWhile isSpacePy = f := by
    refine (List.dropWhile_suffix _).eq_of_length_le ?_
    have : (stripPy f).length ≤ (f.dropWhile isSpacePy).length := by
      unfold stripPy
      rw [List.length_reverse]
      exact (List.length_dropWhile_le _ _).trans (by rw [List.length_reverse])
    rwa [h] at this
  refine ⟨hne, hd, ?_⟩
  unfold stripPy at h
  rw [hd] at h
  have := congrArg List.reverse h
  rwa [List.reverse_reverse] at this

theorem dropWhile_append_of_fixed (a b : Str) (ha : a ≠ []) (h : a.dropWhile isSpacePy = a) :
    (a ++ b).dropWhile isSpacePy = a ++ b := by
  cases a with
  | nil => exact absurd rfl ha
  | cons c cs =>
    have hc : ¬ isSpacePy c = true := List.dropWhile_eq_self_iff.mp h (by simp)
    simp [hc]

theorem Fixed.append {x y : Str} (m : Str) (hx : Fixed x) (hy : Fixed y) : Fixed (x ++ m ++ y) := by
  refine ⟨by simp [hx.1], ?_, ?_⟩
  · rw [List.append_assoc]
    exact dropWhile_append_of_fixed x _ hx.1 hx.2.1
  · rw [List.reverse_append, List.reverse_append]
    exact dropWhile_append_of_fixed y.reverse _ (by simp [hy.1]) hy.2.2

theorem fixed_joinFields (fs : List Str) (hne : fs ≠ []) (h : ∀ f ∈ fs, Fixed f) : Fixed (joinFields fs) := by
  induction fs using joinFields.induct with
  | case1 => exact absurd rfl hne
  | case2 f => exact h f List.mem_cons_self
  | case3 f g gs ih =>
    rw [joinFields]
    exact Fixed.append _ (h f List.mem_cons_self)
      (ih (List.cons_ne_nil _ _) fun x hx => h x (List.mem_cons_of_mem _ hx))

theorem fixed_line (P : Str) (hP : Fixed P) (fs : List Str) (hne : fs ≠ []) (h : ∀ f ∈ fs, Fixed f) :
    Fixed (P ++ ' ' :: joinFields fs) := by
  have := Fixed.append [' '] hP (fixed_joinFields fs hne h)
  simpa using this

structure NameOK (f : Str) : Prop where
  ne : f ≠ []
  clean : cleanField f = true
  colon : ':' ∉ f
  nl : '\n' ∉ f
  cr : '\r' ∉ f

theorem nameOK_iff (f : Str) : nameOK f = true ↔ NameOK f := by
  simp only [nameOK, Bool.and_eq_true, Bool.not_eq_true', List.isEmpty_eq_false_iff, List.contains_eq_mem,
    decide_eq_false_iff_not]
  exact ⟨fun ⟨⟨⟨⟨h1, h2⟩, h3⟩, h4⟩, h5⟩ => ⟨h1, h2, h3, h4, h5⟩, fun h => ⟨⟨⟨⟨h.ne, h.clean⟩, h.colon⟩, h.nl⟩, h.cr⟩⟩

theorem NameOK.fixed {f : Str} (h : NameOK f) : Fixed f :=
  fixed_of_strip ((cleanField_iff f).mp h.clean).2 h.ne

theorem NameOK.int (k : Int) : NameOK k.repr.toList := by
  have hch := chars_of_repr k
  refine ⟨?_, int_field_clean k, ?_, ?_, ?_⟩
  · have := pyInt_repr k
    intro h
    rw [h] at this
    simp [pyInt?] at this
  all_goals
    intro hm
    rcases hch _ hm with h | h
    · exact absurd h (by decide)
    · exact absurd h (by decide)

theorem isPrefixOf_append (P rest : Str) : P.isPrefixOf (P ++ rest) = true :=
  List.isPrefixOf_iff_prefix.mpr (List.prefix_append P rest)

theorem clean_of_ok {fs : List Str} (h : ∀ f ∈ fs, NameOK f) : ∀ f ∈ fs, cleanField f = true :=
  fun f hf => (h f hf).clean
theorem colon_of_ok {fs : List Str} (h : ∀ f ∈ fs, NameOK f) : ∀ f ∈ fs, ':' ∉ f :=
  fun f hf => (h f hf).colon

theorem recFields_line (P : Str) (hP : ':' ∈ P) (fs : List Str) (hne : fs ≠ []) (h : ∀ f ∈ fs, NameOK f) :
    recFields P (P ++ ' ' :: joinFields fs) = fs :=
  line_roundtrip P hP fs hne (clean_of_ok h) (colon_of_ok h)

theorem nameFields_line (P : Str) (hP : ':' ∈ P) (fs : List Str) (hne : fs ≠ []) (h : ∀ f ∈ fs, NameOK f) :
    nameFields P (P ++ ' ' :: joinFields fs) = fs := by
  have hJ : Fixed (joinFields fs) := fixed_joinFields fs hne fun f hf => (h f hf).fixed
  have hs : (stripPy (' ' :: joinFields fs)).isEmpty = false := by
    rw [stripPy_cons_space, hJ.strip]
    exact List.isEmpty_eq_false_iff.mpr hJ.1
  simp only [nameFields, removeAll_line P hP fs (colon_of_ok h), hs, Bool.false_eq_true, if_false]
  exact parse_join fs hne (clean_of_ok h)

theorem nameFields_bare (P : Str) (hP : P ≠ []) : nameFields P P = [] := by
  have : removeAll P P = [] := by
    obtain ⟨c, hc⟩ := List.exists_mem_of_ne_nil P hP
    simpa using removeAll_prefix P [] c hc List.not_mem_nil
  simp [nameFields, this, stripPy_nil]

theorem edge_fields_ok (e : Edge) (he : NameOK e.1 ∧ NameOK e.2.1) :
    ∀ f ∈ [e.1, e.2.1, e.2.2.repr.toList], NameOK f := by
  simp [he.1, he.2, NameOK.int]

theorem edgeRec_line (P : Str) (hP : ':' ∈ P) (e : Edge) (he : NameOK e.1 ∧ NameOK e.2.1) (es : List Edge) :
    edgeRec P (edgeLine P e) es = some (es ++ [e]) := by
  unfold edgeRec edgeLine
  rw [recFields_line P hP _ (by simp) (edge_fields_ok e he)]
  simp [pyInt_repr]

theorem foldM?_cons {σ α : Type} (f : σ → α → Option σ) {s s' : σ} {a : α} (as : List α) (h : f s a = some s') :
    foldM? f s (a :: as) = foldM? f s' as := by
  rw [foldM?, h]

/-- a stretch of lines written from the items `l`: `φ done` is the reader's state once the lines of
    `done` have been read -/
theorem foldM?_map {σ α β : Type} (f : σ → α → Option σ) (g : β → α) (φ : List β → σ) (l : List β)
    (hstep : ∀ done b, b ∈ l → f (φ done) (g b) = some (φ (done ++ [b]))) {s : σ} (h0 : φ [] = s) (rest : List α) :
    foldM? f s (l.map g ++ rest) = foldM? f (φ l) rest := by
  subst h0
  induction l generalizing φ with
  | nil => rfl
  | cons b bs ih =>
    rw [List.map_cons, List.cons_append, foldM?_cons _ _ (hstep [] b List.mem_cons_self)]
    exact ih (fun done => φ (b :: done)) fun done b' hb' => hstep (b :: done) b' (List.mem_cons_of_mem _ hb')

/-- no line break inside (all ten prefixes and markers) -/
def plainP (P : Str) : Prop := ∀ c ∈ P, c ≠ '\n' ∧ c ≠ '\r'

instance (s : Str) : Decidable (Fixed s) := by unfold Fixed; infer_instance
instance (P : Str) : Decidable (plainP P) := by unfold plainP; infer_instance

/-- a line the reader keeps as it is -/
structure LineOK (l : Str) : Prop where
  nl : '\n' ∉ l
  cr : '\r' ∉ l
  fixed : Fixed l

theorem LineOK.written {l : Str} (h : LineOK l) : Written l :=
  ⟨h.nl, h.cr, by rw [h.fixed.strip]; exact h.fixed.1⟩

theorem not_mem_line {x : Char} {P : Str} {fs : List Str} (hP : x ∉ P) (h1 : x ≠ ',') (h2 : x ≠ ' ')
    (h : ∀ f ∈ fs, x ∉ f) : x ∉ P ++ ' ' :: joinFields fs :=
  fun hm => (List.mem_append.mp hm).elim hP (not_mem_fields x h1 h2 fs h)

theorem line_no_breaks {P : Str} (hpl : plainP P) {fs : List Str} (h : ∀ f ∈ fs, NameOK f) :
    '\n' ∉ P ++ ' ' :: joinFields fs ∧ '\r' ∉ P ++ ' ' :: joinFields fs :=
  ⟨not_mem_line (fun hm => (hpl _ hm).1 rfl) (by decide) (by decide) fun f hf => (h f hf).nl,
    not_mem_line (fun hm => (hpl _ hm).2 rfl) (by decide) (by decide) fun f hf => (h f hf).cr⟩

theorem lineOK_rec {P : Str} (hF : Fixed P) (hpl : plainP P) {fs : List Str} (hne : fs ≠ []) (h : ∀ f ∈ fs, NameOK f) :
    LineOK (P ++ ' ' :: joinFields fs) :=
  ⟨(line_no_breaks hpl h).1, (line_no_breaks hpl h).2, fixed_line P hF fs hne fun f hf => (h f hf).fixed⟩

theorem lineOK_edge {P : Str} (hF : Fixed P) (hpl : plainP P) (e : Edge) (he : NameOK e.1 ∧ NameOK e.2.1) :
    LineOK (edgeLine P e) :=
  lineOK_rec hF hpl (by simp) (edge_fields_ok e he)

/-- the names line as the reader sees it -/
def namesLineRead (P : Str) (names : List Str) : Str := stripPy (P ++ ' ' :: joinFields names)

/-- `strip()` leaves the names line unchanged, or the bare prefix when there are no names -/
theorem namesLine_read (P : Str) (hF : Fixed P) (hc : ':' ∈ P) (names : List Str) (hn : ∀ f ∈ names, NameOK f) :
    namesLineRead P names ≠ [] ∧ P.isPrefixOf (namesLineRead P names) = true ∧
      nameFields P (namesLineRead P names) = names := by
  unfold namesLineRead
  by_cases hne : names = []
  · subst hne
    have : stripPy (P ++ ' ' :: joinFields []) = P := by
      unfold stripPy
      rw [joinFields, dropWhile_append_of_fixed P _ hF.1 hF.2.1, List.reverse_append, List.reverse_singleton,
        List.singleton_append, List.dropWhile_cons, if_pos (by decide), hF.2.2, List.reverse_reverse]
    rw [this]
    exact ⟨hF.1, by simp, nameFields_bare P hF.1⟩
  · rw [(fixed_line P hF names hne fun f hf => (hn f hf).fixed).strip]
    exact ⟨by simp [hF.1], isPrefixOf_append P _, nameFields_line P hc names hne hn⟩

theorem written_file {P : Str} (hF : Fixed P) (hpl : plainP P) (hc : ':' ∈ P) (names : List Str)
    (hn : ∀ f ∈ names, NameOK f) (ls : List Str) (hls : ∀ l ∈ ls, LineOK l) :
    ∀ l ∈ (P ++ ' ' :: joinFields names) :: ls, Written l := by
  intro l hl
  rcases List.mem_cons.mp hl with rfl | hl
  · exact ⟨(line_no_breaks hpl hn).1, (line_no_breaks hpl hn).2, (namesLine_read P hF hc names hn).1⟩
  · exact (hls l hl).written

theorem readLines_file {P : Str} (hF : Fixed P) (hpl : plainP P) (hc : ':' ∈ P) (names : List Str)
    (hn : ∀ f ∈ names, NameOK f) (ls : List Str) (hls : ∀ l ∈ ls, LineOK l) :
    readLines (writeText ((P ++ ' ' :: joinFields names) :: ls)) = namesLineRead P names :: ls := by
  rw [readLines_writeText _ (written_file hF hpl hc names hn ls hls), List.map_cons,
    List.map_congr_left (fun l hl => (hls l hl).fixed.strip), List.map_id']
  rfl

theorem graphStep_names (st : GraphFile) (names : List Str) (hn : ∀ f ∈ names, NameOK f) :
    graphStep st (namesLineRead pVERTICES names) = some { st with names := some names } := by
  obtain ⟨-, h1, h2⟩ := namesLine_read pVERTICES (by decide) (by decide) names hn
  simp only [graphStep, h1, if_true, h2]

theorem graphStep_edge (st : GraphFile) (e : Edge) (he : NameOK e.1 ∧ NameOK e.2.1) :
    graphStep st (edgeLine pEDGE e) = some { st with edges := st.edges ++ [e] } := by
  have h1 : pVERTICES.isPrefixOf (edgeLine pEDGE e) = false := rfl
  have h2 : pEDGE.isPrefixOf (edgeLine pEDGE e) = true := isPrefixOf_append pEDGE _
  simp only [graphStep, h1, h2, Bool.false_eq_true, if_false, if_true, edgeRec_line pEDGE (by decide) e he, Option.map_some]

theorem lineOK_writeGraph (edges : List Edge) (he : ∀ e ∈ edges, NameOK e.1 ∧ NameOK e.2.1) :
    ∀ l ∈ edges.map (edgeLine pEDGE), LineOK l := fun l hl => by
  obtain ⟨e, hem, rfl⟩ := List.mem_map.mp hl
  exact lineOK_edge (P := pEDGE) (by decide) (by decide) e (he e hem)

theorem written_writeGraph (names : List Str) (edges : List Edge)
    (hn : ∀ f ∈ names, NameOK f) (he : ∀ e ∈ edges, NameOK e.1 ∧ NameOK e.2.1) :
    ∀ l ∈ writeGraph names edges, Written l :=
  written_file (P := pVERTICES) (by decide) (by decide) (by decide) names hn _ (lineOK_writeGraph edges he)

/-- graph files round-trip (`to_txt` / `read_txt`), for any number of vertices including none -/
theorem readGraph_writeGraph (names : List Str) (edges : List Edge)
    (hn : ∀ f ∈ names, NameOK f) (he : ∀ e ∈ edges, NameOK e.1 ∧ NameOK e.2.1) :
    readGraph (writeText (writeGraph names edges)) = some (names, edges) := by
  unfold readGraph
  rw [writeGraph, readLines_file (P := pVERTICES) (by decide) (by decide) (by decide) names hn _
      (lineOK_writeGraph edges he), foldM?_cons _ _ (graphStep_names _ names hn),
    ← List.append_nil (edges.map _),
    foldM?_map graphStep (edgeLine pEDGE) (fun done => ⟨some names, done⟩) edges
      (fun done e hem => graphStep_edge _ e (he e hem)) (by rfl)]
  rfl

/-- what a record prefix / section marker must satisfy (checked by evaluation for the three kinds) -/
structure SecOK (marker P : Str) : Prop where
  colon : ':' ∈ P
  fixedP : Fixed P
  plP : plainP P
  fixedM : Fixed marker
  plM : plainP marker
  notGV : ∀ r, pGVERTICES.isPrefixOf (P ++ r) = false
  notGE : ∀ r, pGEDGE.isPrefixOf (P ++ r) = false
  notM : ∀ r, P ++ r ≠ marker
  mGV : pGVERTICES.isPrefixOf marker = false
  mGE : pGEDGE.isPrefixOf marker = false

theorem foldl_recs {β : Type} (add : List β → β → List β) (recs : List β) (st : SecFile β) :
    recs.foldl (fun st r => { st with recs := add st.recs r }) st = { st with recs := recs.foldl add st.recs } := by
  induction recs generalizing st with
  | nil => simp
  | cons e es ih => simp [List.foldl_cons, ih]

section
variable {β : Type} (marker P : Str) (mk : Str → Str → Option β) (add : List β → β → List β) (st : SecFile β)

theorem secStep_names (names : List Str) (hn : ∀ f ∈ names, NameOK f) :
    secStep marker P mk add st (namesLineRead pGVERTICES names) = some { st with names := some names } := by
  obtain ⟨-, h1, h2⟩ := namesLine_read pGVERTICES (by decide) (by decide) names hn
  simp only [secStep, h1, if_true, h2]

theorem secStep_edge (e : Edge) (he : NameOK e.1 ∧ NameOK e.2.1) :
    secStep marker P mk add st (edgeLine pGEDGE e) = some { st with edges := st.edges ++ [e] } := by
  have h1 : pGVERTICES.isPrefixOf (edgeLine pGEDGE e) = false := rfl
  have h2 : pGEDGE.isPrefixOf (edgeLine pGEDGE e) = true := isPrefixOf_append pGEDGE _
  simp only [secStep, h1, h2, Bool.false_eq_true, if_false, if_true, edgeRec_line pGEDGE (by decide) e he, Option.map_some]

variable {marker P} (hS : SecOK marker P)
include hS

theorem secStep_marker : secStep marker P mk add st marker = some { st with parsing := true } := by
  simp only [secStep, hS.mGV, hS.mGE, Bool.false_eq_true, if_false, if_true]

theorem secStep_rec (hp : st.parsing = true) {a b : Str} (ha : NameOK a) (hb : NameOK b) {r : β} (hr : mk a b = some r) :
    secStep marker P mk add st (P ++ ' ' :: joinFields [a, b]) = some { st with recs := add st.recs r } := by
  have h4 : P.isPrefixOf (P ++ ' ' :: joinFields [a, b]) = true := isPrefixOf_append P _
  have h5 : recFields P (P ++ ' ' :: joinFields [a, b]) = [a, b] :=
    recFields_line P hS.colon _ (by simp) (by simp [ha, hb])
  simp only [secStep, hS.notGV, hS.notGE, hS.notM, h4, hp, h5, Bool.false_eq_true, if_false, and_self, if_true, hr,
    Option.map_some]

end

/-- sectioned files (divisor, orientation, firing script) round-trip; records are folded with the
    reader's `add` -/
theorem readSec_write {β : Type} (marker P : Str) (hS : SecOK marker P)
    (mk : Str → Str → Option β) (add : List β → β → List β) (flds : β → Str × Str)
    (names : List Str) (edges : List Edge) (recs : List β)
    (hn : ∀ f ∈ names, NameOK f) (he : ∀ e ∈ edges, NameOK e.1 ∧ NameOK e.2.1)
    (hr : ∀ r ∈ recs, NameOK (flds r).1 ∧ NameOK (flds r).2 ∧ mk (flds r).1 (flds r).2 = some r) :
    readSec marker P mk add (writeText (header names edges ++
      marker :: recs.map fun r => P ++ ' ' :: joinFields [(flds r).1, (flds r).2])) =
      some (names, edges, recs.foldl add []) := by
  have hlines := readLines_file (P := pGVERTICES) (by decide) (by decide) (by decide) names hn
    (edges.map (edgeLine pGEDGE) ++ marker :: recs.map fun r => P ++ ' ' :: joinFields [(flds r).1, (flds r).2]) (by
      intro l hl
      simp only [List.mem_append, List.mem_cons, List.mem_map] at hl
      rcases hl with ⟨e, hem, rfl⟩ | rfl | ⟨r, hrm, rfl⟩
      · exact lineOK_edge (P := pGEDGE) (by decide) (by decide) e (he e hem)
      · exact ⟨fun hm => (hS.plM _ hm).1 rfl, fun hm => (hS.plM _ hm).2 rfl, hS.fixedM⟩
      · exact lineOK_rec hS.fixedP hS.plP (by simp) (by simp [(hr r hrm).1, (hr r hrm).2.1]))
  unfold readSec
  -- the fold, stretch by stretch: names line, edge lines, marker, record lines
  rw [header, List.cons_append, hlines, foldM?_cons _ _ (secStep_names marker P mk add _ names hn),
    foldM?_map _ (edgeLine pGEDGE) (fun done => (⟨some names, done, false, []⟩ : SecFile β)) edges
      (fun done e hem => secStep_edge marker P mk add _ e (he e hem)) (by rfl),
    foldM?_cons _ _ (secStep_marker mk add _ hS), ← List.append_nil (recs.map _),
    foldM?_map _ _ (fun done => (⟨some names, edges, true, done.foldl add []⟩ : SecFile β)) recs
      (fun done r hrm => by
        rw [secStep_rec mk add _ hS rfl (hr r hrm).1 (hr r hrm).2.1 (hr r hrm).2.2, List.foldl_append]
        rfl) (by rfl)]
  rfl

theorem secOK_degrees : SecOK mDEGREES pDEGREE :=
  ⟨by decide, by decide, by decide, by decide, by decide,
   fun _ => rfl, fun _ => rfl, fun r h => by simp [pDEGREE, mDEGREES] at h, rfl, rfl⟩

theorem secOK_orientations : SecOK mORIENTATIONS pORIENTED :=
  ⟨by decide, by decide, by decide, by decide, by decide,
   fun _ => rfl, fun _ => rfl, fun r h => by simp [pORIENTED, mORIENTATIONS] at h, rfl, rfl⟩

theorem secOK_script : SecOK mSCRIPT pFIRING :=
  ⟨by decide, by decide, by decide, by decide, by decide,
   fun _ => rfl, fun _ => rfl, fun r h => by simp [pFIRING, mSCRIPT] at h, rfl, rfl⟩

theorem mkInt_repr (a : Str) (k : Int) : mkInt a k.repr.toList = some (a, k) := by
  rw [mkInt, pyInt_repr]
  rfl

theorem foldl_snoc {β : Type} (l acc : List β) : l.foldl snoc acc = acc ++ l := by
  induction l generalizing acc with
  | nil => simp
  | cons b bs ih => simp [List.foldl_cons, ih, snoc]

theorem dictSet_fresh (d : List (Str × Int)) (kv : Str × Int) (h : kv.1 ∉ d.map (·.1)) : dictSet d kv = d ++ [kv] := by
  fun_induction dictSet d kv with
  | case1 => rfl
  | case2 v rest kv => exact absurd (by simp) h
  | case3 k v rest kv hk ih => rw [ih fun hm => h (by simp at hm ⊢; exact Or.inr hm), List.cons_append]

theorem foldl_dictSet (l acc : List (Str × Int)) (h : ((acc ++ l).map (·.1)).Nodup) :
    l.foldl dictSet acc = acc ++ l := by
  induction l generalizing acc with
  | nil => simp
  | cons b bs ih =>
    have hb : b.1 ∉ acc.map (·.1) := by
      intro hm
      rw [List.map_append, List.nodup_append] at h
      exact h.2.2 _ hm _ (by simp) rfl
    rw [List.foldl_cons, dictSet_fresh acc b hb, ih _ (by simpa using h)]
    simp

theorem NameOK.of_names {l : List Str} (h : ∀ f ∈ l, nameOK f = true) : ∀ f ∈ l, NameOK f :=
  fun f hf => (nameOK_iff f).mp (h f hf)

theorem NameOK.of_edges {es : List Edge} (h : ∀ e ∈ es, nameOK e.1 = true ∧ nameOK e.2.1 = true) :
    ∀ e ∈ es, NameOK e.1 ∧ NameOK e.2.1 :=
  fun e he => ⟨(nameOK_iff _).mp (h e he).1, (nameOK_iff _).mp (h e he).2⟩

end CF.Txt
