import Mathlib.Data.List.Basic
/-
  The searches of the model are left folds over an `Option` accumulator that stays `none` once a
  step has failed to return.  What such a fold returns satisfies every invariant of its
  successful steps.  Also: the folds that keep a running maximum or minimum.
-/
namespace CF
variable {α σ : Type}

/-- the invariant `I s done` speaks of the state and of the part of the list already consumed -/
theorem foldl_option_inv (f : Option σ → α → Option σ) (hnone : ∀ a, f none a = none)
    (I : σ → List α → Prop)
    (hstep : ∀ s done a s', I s done → f (some s) a = some s' → I s' (done ++ [a])) :
    ∀ (l done : List α) (s r : σ), I s done → l.foldl f (some s) = some r → I r (done ++ l) := by
  intro l
  induction l with
  | nil => intro done s r hI h; cases h; simpa using hI
  | cons a l ih =>
    intro done s r hI h
    rw [List.foldl_cons] at h
    cases hs : f (some s) a with
    | none => rw [hs, List.foldl_fixed' hnone] at h; cases h
    | some s' =>
      rw [hs] at h
      simpa using ih (done ++ [a]) s' r (hstep s done a s' hI hs) h

theorem foldl_option_returns (f : Option σ → α → Option σ) (l : List α)
    (h : ∀ s, ∀ a ∈ l, ∃ s', f (some s) a = some s') : ∀ s, ∃ r, l.foldl f (some s) = some r := by
  induction l with
  | nil => exact fun s => ⟨s, rfl⟩
  | cons a l ih =>
    intro s
    obtain ⟨s', hs⟩ := h s a List.mem_cons_self
    rw [List.foldl_cons, hs]
    exact ih (fun s b hb => h s b (List.mem_cons_of_mem _ hb)) s'

theorem foldl_max_spec (g : α → Nat) (l : List α) (m0 : Nat) :
    (∀ a ∈ l, g a ≤ l.foldl (fun m a => max m (g a)) m0) ∧ m0 ≤ l.foldl (fun m a => max m (g a)) m0 ∧
    (l.foldl (fun m a => max m (g a)) m0 = m0 ∨ ∃ a ∈ l, l.foldl (fun m a => max m (g a)) m0 = g a) := by
  -- the fold is the maximum of `m0 :: l.map g`
  have h : (m0 :: l.map g).max? = some (l.foldl (fun m a => max m (g a)) m0) := by
    rw [List.max?_cons', List.foldl_map]
  obtain ⟨hmem, hle⟩ := List.max?_eq_some_iff.mp h
  refine ⟨fun a ha => hle _ (List.mem_cons_of_mem _ (List.mem_map_of_mem ha)), hle _ List.mem_cons_self, ?_⟩
  rcases List.mem_cons.mp hmem with h | h
  · exact Or.inl h
  · obtain ⟨a, ha, e⟩ := List.mem_map.mp h
    exact Or.inr ⟨a, ha, e.symm⟩

theorem foldl_min_spec (g : α → Nat) (l : List α) (m0 : Nat) :
    (∀ a ∈ l, l.foldl (fun m a => min m (g a)) m0 ≤ g a) ∧ l.foldl (fun m a => min m (g a)) m0 ≤ m0 ∧
    (l.foldl (fun m a => min m (g a)) m0 = m0 ∨ ∃ a ∈ l, l.foldl (fun m a => min m (g a)) m0 = g a) := by
  have h : (m0 :: l.map g).min? = some (l.foldl (fun m a => min m (g a)) m0) := by
    rw [List.min?_cons', List.foldl_map]
  obtain ⟨hmem, hle⟩ := List.min?_eq_some_iff.mp h
  refine ⟨fun a ha => hle _ (List.mem_cons_of_mem _ (List.mem_map_of_mem ha)), hle _ List.mem_cons_self, ?_⟩
  rcases List.mem_cons.mp hmem with h | h
  · exact Or.inl h
  · obtain ⟨a, ha, e⟩ := List.mem_map.mp h
    exact Or.inr ⟨a, ha, e.symm⟩

end CF
