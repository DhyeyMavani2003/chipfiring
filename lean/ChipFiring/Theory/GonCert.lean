import ChipFiring.Theory.RankTheory
import ChipFiring.Theory.Acyclic
/-
  Gonality of a concrete graph by certificates.  For every game an unverified search proposes a
  firing script and, where the opponent wins, a burn order; `winsBy` / `losesBy` check the proposal.
  The search works on lists of literals because the kernel evaluates the function-valued model slowly.
-/
open Finset
namespace CF
variable {n : Nat}

/-- `D − L·s`, executable -/
def applyS (G : Graph n) (D s : Fin n → Int) : Fin n → Int :=
  fun w => D w - sumZ fun v => (G.adj w v : Int) * (s w - s v)

theorem applyS_eq (G : Graph n) (D s : Fin n → Int) : applyS G D s = applyScript G D s := by
  funext w; simp [applyS, applyScript]

def winsBy (G : Graph n) (E s : Fin n → Int) : Bool := effective (applyS G E s)

/-- after the script `s`, every vertex holds fewer chips than it has edges to vertices of smaller `pos` -/
def losesBy (G : Graph n) (E s : Fin n → Int) (pos : Fin n → Nat) : Bool :=
  allF fun v => decide (applyS G E s v < sumZ fun w => if pos w < pos v then (G.adj w v : Int) else 0)

theorem winnable_of_winsBy (G : Graph n) (E s : Fin n → Int) (h : winsBy G E s = true) :
    Winnable G E := by
  refine ⟨_, ⟨s, rfl⟩, fun v => ?_⟩
  simpa [winsBy, effective, applyS_eq] using (allF_iff _).mp h v

theorem not_winnable_of_losesBy (G : Graph n) (hs : ∀ v w, G.adj v w = G.adj w v) (hn : 0 < n)
    (E s : Fin n → Int) (pos : Fin n → Nat) (h : losesBy G E s pos = true) : ¬ Winnable G E := by
  simp only [losesBy, allF_iff, decide_eq_true_eq, applyS_eq, sumZ_eq] at h
  rw [winnable_congr ⟨s, rfl⟩]
  refine unwinnable_of_le_acyclic G hs hn (fun u v => decide (pos u < pos v))
    ⟨pos, fun u v hd _ => of_decide_eq_true hd⟩ _ fun v => ?_
  have := h v
  simp only [indeg, decide_eq_true_eq]
  omega

/-! ### the search (nothing is proved about it) -/

namespace Search

/-- first unburnt vertex, counted from `i`, whose remaining threshold is negative -/
def nextBurn : List Bool → List Int → Nat → Option Nat
  | b :: bs, r :: rs, i => if !b && decide (r < 0) then some i else nextBurn bs rs (i + 1)
  | _, _, _ => none

/-- Dhar's burn: `bs` burnt flags, `rs` chips minus edges to burnt vertices, `ps` burn times -/
def burn (rows : List (List Int)) :
    Nat → List Bool → List Int → List Nat → Nat → List Bool × List Nat
  | 0, bs, _, ps, _ => (bs, ps)
  | f + 1, bs, rs, ps, t =>
    match nextBurn bs rs 0 with
    | none => (bs, ps)
    | some i =>
      burn rows f (bs.set i true) (List.zipWith (· - ·) rs (rows.getD i [])) (ps.set i t) (t + 1)

def dot : List Int → List Bool → Int
  | r :: rs, b :: bs => if b then r + dot rs bs else dot rs bs
  | _, _ => 0

/-- fire the set `S` (`NS` its complement) -/
def fire (S NS : List Bool) : List Int → List (List Int) → List Bool → List Int
  | e :: es, row :: rows, b :: bs =>
    (if b then e - dot row NS else e + dot row S) :: fire S NS es rows bs
  | _, _, _ => []

/-- burn from `q`, fire what is left, repeat; returns the accumulated script and the last burn times -/
def reduce (rows : List (List Int)) (n q : Nat) : Nat → List Int → List Int → List Int × List Nat
  | 0, _, s => (s, [])
  | f + 1, E, s =>
    let (bs, ps) := burn rows n ((List.range n).map (· == q))
      (List.zipWith (· - ·) E (rows.getD q [])) (List.replicate n 0) 1
    if bs.all id then (s, ps) else
      let S := bs.map not
      reduce rows n q f (fire S bs E rows S)
        (List.zipWith (fun x (b : Bool) => if b then x + 1 else x) s S)

end Search

def rowsOf (G : Graph n) : List (List Int) :=
  (List.finRange n).map fun v => (List.finRange n).map fun w => (G.adj v w : Int)

/-- script and burn times proposed for the divisor `E` (without debt off `q`) -/
def propose (G : Graph n) (q : Fin n) (E : Fin n → Int) : (Fin n → Int) × (Fin n → Nat) :=
  let r := Search.reduce (rowsOf G) n q.1 n ((List.finRange n).map E) (List.replicate n 0)
  (fun v => r.1.getD v.1 0, fun v => r.2.getD v.1 0)

def gameDivisor (P : Fin n → Int) (v : Fin n) : Fin n → Int := fun w => P w - chipAt v w

def placementWins (G : Graph n) (P : Fin n → Int) : Bool :=
  allF fun v => winsBy G (gameDivisor P v) (propose G v (gameDivisor P v)).1

/-- `P v = 0` only spares the kernel the games Player A wins outright; soundness does not use it -/
def placementLoses (G : Graph n) (P : Fin n → Int) : Bool :=
  anyF fun v => decide (P v = 0) &&
    losesBy G (gameDivisor P v) (propose G v (gameDivisor P v)).1 (propose G v (gameDivisor P v)).2

/-- some placement of `k` chips wins every game, every placement of `k − 1` chips loses one -/
def gonCert (G : Graph n) (k : Nat) : Bool :=
  (effDivs n k).any (placementWins G) && (effDivs n (k - 1)).all (placementLoses G)

theorem isGonality_of_gonCert (G : Graph n) (hs : ∀ v w, G.adj v w = G.adj w v) (hn : 0 < n)
    (k : Nat) (hk : 1 ≤ k) (h : gonCert G k = true) : IsGonality G k := by
  simp only [gonCert, Bool.and_eq_true, List.any_eq_true, List.all_eq_true] at h
  obtain ⟨⟨P, hP, hw⟩, hl⟩ := h
  obtain ⟨hPe, hPd⟩ := effDivs_sound k P hP
  refine ⟨⟨P, hPe, hPd, fun v => winnable_of_winsBy G _ _ ((allF_iff _).mp hw v)⟩, ?_⟩
  intro D hD hdk hr
  -- with fewer chips, pad `D` up to `k − 1`: winning survives added chips
  obtain ⟨F, hF, hDF, hdeg⟩ := exists_eff_pad hn hD (k := (k : Int) - 1) (by omega)
  obtain ⟨v, hv⟩ := (anyF_iff _).mp (hl _ (effDivs_complete (k - 1) _ hDF (by rw [hdeg]; omega)))
  exact not_winnable_of_losesBy G hs hn _ _ _ (Bool.and_eq_true_iff.mp hv).2
    (RankGeOne.add_eff G hr hF v)

end CF
