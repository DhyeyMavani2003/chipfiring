import ChipFiring.Theory.Burn
import ChipFiring.Model.Machines
/-
  What the model's tests on configurations compute: the legality test, `is_superstable` and the
  comparison operators, against the specification (`Legal`, `QReduced`, the vertex-wise order off q).
  The theorems in namespace `C10` are the clauses of property C10 about these tests.
-/
open Finset

namespace CF
variable {n : Nat}

theorem mem_setOf (l : List (Fin n)) (v : Fin n) : setOf l v = true ↔ v ∈ l := by simp [setOf]

theorem mem_vtilde (q v : Fin n) : v ∈ vtilde q ↔ v ≠ q := by simp [vtilde]

theorem vtilde_nodup (q : Fin n) : (vtilde q).Nodup := (List.nodup_finRange n).filter _

theorem vtilde_length (q : Fin n) : (vtilde q).length + 1 = n := by
  have h := List.toFinset_card_of_nodup (vtilde_nodup q)
  rw [show (vtilde q).toFinset = univ.erase q from Finset.ext fun v => by
    rw [List.mem_toFinset, mem_vtilde, mem_erase, and_iff_left (mem_univ v)],
    card_erase_of_mem (mem_univ q), card_univ, Fintype.card_fin] at h
  have := q.pos
  omega

/-- the model's `sublists` is Mathlib's `List.sublists'` -/
theorem mem_sublists {α : Type} {l xs : List α} : l ∈ sublists xs ↔ l.Sublist xs := by
  have h : sublists xs = xs.sublists' := by
    induction xs with
    | nil => rfl
    | cons x xs ih => rw [sublists, ih, List.sublists'_cons]
  rw [h, List.mem_sublists']

theorem exists_sublist_setOf (q : Fin n) (S : Fin n → Bool) (hS : S q = false) :
    ∃ l ∈ sublists (vtilde q), setOf l = S := by
  refine ⟨(vtilde q).filter S, mem_sublists.mpr List.filter_sublist, funext fun v => Bool.eq_iff_iff.mpr ?_⟩
  rw [mem_setOf, List.mem_filter, mem_vtilde]
  exact ⟨fun h => h.2, fun h => ⟨fun e => by rw [e, hS] at h; exact Bool.noConfusion h, h⟩⟩

end CF

namespace CF.C10
open CF Finset
variable {n : Nat}

theorem outDegS_eq (G : Graph n) (S : Fin n → Bool) (v : Fin n) : outDegS G S v = outdeg G S v := by
  simp [outDegS, outdeg]

/-- C10, legality test: non-empty, and every member holds at least as many chips as it has edges leaving S -/
theorem legal_iff (G : Graph n) (D : Fin n → Int) (S : List (Fin n)) :
    isLegalFiring G D S = true ↔ S ≠ [] ∧ ∀ v ∈ S, outdeg G (setOf S) v ≤ D v := by
  fun_cases isLegalFiring G D S with
  | case1 h => simp [List.isEmpty_iff.mp h]
  | case2 h D' =>
    have hS : S ≠ [] := by simpa using h
    simp only [List.all_eq_true, decide_eq_true_eq, ne_eq, hS, not_false_eq_true, true_and]
    refine forall₂_congr fun v hv => ?_
    simp only [D', fireSet, (mem_setOf S v).mpr hv, if_true, sumZ_eq, outdeg, sub_nonneg]

theorem legal_iff_spec (G : Graph n) (q : Fin n) (D : Fin n → Int) (l : List (Fin n)) (hq : q ∉ l) :
    isLegalFiring G D l = true ↔ Legal G q D (setOf l) := by
  rw [legal_iff]
  unfold Legal
  simp only [mem_setOf]
  exact ⟨fun h => ⟨List.exists_mem_of_ne_nil l h.1, Bool.eq_false_iff.mpr (mt (mem_setOf l q).mp hq), h.2⟩,
    fun h => ⟨let ⟨_, hv⟩ := h.1; List.ne_nil_of_mem hv, h.2.2⟩⟩

/-- C10, `is_superstable`: the specification `QReduced` -/
theorem superstable_iff (G : Graph n) (q : Fin n) (D : Fin n → Int) :
    isSuperstable G q D = true ↔ QReduced G q D := by
  unfold isSuperstable QReduced
  simp only [Bool.and_eq_true, nonNegOffQ, List.all_eq_true, decide_eq_true_eq, Bool.not_eq_eq_eq_not,
    Bool.not_true, mem_vtilde]
  have hq : ∀ l ∈ sublists (vtilde q), q ∉ l := fun l hl hq =>
    (mem_vtilde q q).mp ((mem_sublists.mp hl).subset hq) rfl
  refine and_congr_right fun _ => ⟨fun h S hS => ?_, fun h l hl => ?_⟩
  · obtain ⟨l, hl, rfl⟩ := exists_sublist_setOf q S hS.2.1
    have hleg := (legal_iff_spec G q D l (hq l hl)).mpr hS
    rw [h l hl] at hleg
    exact Bool.noConfusion hleg
  · by_contra hc
    exact h (setOf l) ((legal_iff_spec G q D l (hq l hl)).mp (by simpa using hc))

/-- C10: superstable iff Dhar's burn from q consumes every vertex (for configurations non-negative off q) -/
theorem superstable_iff_burn_all (G : Graph n) (q : Fin n) (D : Fin n → Int) (hnn : ∀ v, v ≠ q → 0 ≤ D v) :
    isSuperstable G q D = true ↔ ∀ v, (burn G q D).B v = true := by
  rw [superstable_iff, burn_all_iff]
  exact ⟨fun h => h.2, fun h => ⟨hnn, h⟩⟩

/-- the comparison operators are the vertex-wise partial order on the vertices other than q -/
theorem cmp_is_pointwise_order (q : Fin n) (c d : Fin n → Int) :
    cfgCmp q true c d 0 = .ok (decide (∀ v, v ≠ q → c v = d v)) ∧
    cfgCmp q true c d 1 = .ok (decide (∀ v, v ≠ q → d v ≤ c v)) ∧
    cfgCmp q true c d 2 = .ok (decide (∀ v, v ≠ q → c v ≤ d v)) ∧
    cfgCmp q true c d 3 = .ok (decide ((∀ v, v ≠ q → c v ≤ d v) ∧ ¬ ∀ v, v ≠ q → c v = d v)) ∧
    cfgCmp q true c d 4 = .ok (decide ((∀ v, v ≠ q → d v ≤ c v) ∧ ¬ ∀ v, v ≠ q → c v = d v)) := by
  have : Nonempty (Fin n) := ⟨q⟩
  -- each test is a conjunction over the vertices other than q
  have key : ∀ (p : Fin n → Prop) [DecidablePred p],
      ((vtilde q).all fun v => decide (p v)) = decide (∀ v, v ≠ q → p v) := by
    intro p _
    rw [Bool.eq_iff_iff]
    simp only [List.all_eq_true, decide_eq_true_eq, mem_vtilde]
  simp only [cfgCmp, Bool.true_and, if_true, key, Bool.decide_and, decide_not, and_self]

/-- different graphs or sinks: `==` is False, the order comparisons are refused -/
theorem cmp_incomparable (q : Fin n) (c d : Fin n → Int) :
    cfgCmp q false c d 0 = .ok false ∧ ∀ op, 1 ≤ op → cfgCmp q false c d op = .error () := by
  refine ⟨by simp [cfgCmp], ?_⟩
  intro op hop
  match op, hop with
  | 1, _ => rfl
  | 2, _ => rfl
  | 3, _ => rfl
  | (k + 4), _ => rfl

end CF.C10
