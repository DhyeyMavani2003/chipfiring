import ChipFiring.Theory.Reduced
import ChipFiring.Theory.Independent
/-
  The complete graph K_n (`IsComplete`; `completeGraph` as a model graph) and T14: its gonality is
  n − 1 for every n ≥ 2.
-/
open Finset

namespace CF
variable {n : Nat} (G : Graph n)

/-- simple complete graph on the n vertices -/
def IsComplete : Prop := ∀ u v, G.adj u v = if u = v then 0 else 1

theorem sum_one_of_ne (u : Fin n) : ∑ v : Fin n, (if v = u then (0:Int) else 1) = (n : Int) - 1 := by
  rw [Finset.sum_ite, Finset.sum_const_zero, zero_add, Finset.sum_const, Finset.filter_ne' univ u,
    Finset.card_erase_of_mem (mem_univ u), Finset.card_univ, Fintype.card_fin, nsmul_one,
    Nat.cast_pred u.pos]

theorem IsComplete.sum_adj {G : Graph n} (hK : IsComplete G) (v : Fin n) :
    ∑ u, (G.adj v u : Int) = (n : Int) - 1 := by
  simp only [hK v, Nat.cast_ite, Nat.cast_zero, Nat.cast_one, eq_comm (a := v)]
  exact sum_one_of_ne v

theorem IsComplete.connected {G : Graph n} (hK : IsComplete G) : G.Connected := fun q =>
  ⟨fun v => if v = q then 0 else 1, if_pos rfl, fun v hv => ⟨q, by simp [hK v q, hv], by simp [hv]⟩⟩

/-- K_N as a model graph, caches included -/
def completeGraph (N : Nat) : Graph N :=
  Graph.ofFns (fun u v => if u = v then 0 else 1) (fun _ => N - 1) (N * (N - 1) / 2)

theorem completeGraph_isComplete (N : Nat) : IsComplete (completeGraph N) := by
  intro u v; simp [completeGraph]

theorem completeGraph_wf (N : Nat) : (completeGraph N).WF := by
  refine ⟨?_, ?_, ?_, ?_⟩
  · intro v w; simp only [completeGraph, Graph.adj_ofFns, eq_comm]
  · intro v; simp [completeGraph]
  · intro v
    have : Nonempty (Fin N) := ⟨v⟩
    simp [completeGraph, Finset.sum_ite, Finset.filter_ne]
  · simp only [completeGraph, Graph.total_ofFns, Graph.val_ofFns, Finset.sum_const, Finset.card_univ, Fintype.card_fin,
      smul_eq_mul]
    have := (Nat.even_mul_pred_self N).two_dvd
    omega

/-- on K_n, firing every vertex but w costs each of them the one chip it sends to w -/
theorem complete_fire_others {G : Graph n} (hK : IsComplete G) {w x : Fin n} (hx : x ≠ w) :
    ∑ v, (G.adj x v : Int) * ((if x = w then (0:Int) else 1) - if v = w then 0 else 1) = 1 := by
  have : Nonempty (Fin n) := ⟨w⟩
  rw [if_neg hx, Finset.sum_eq_single w]
  · simp [hK x w, hx]
  · intro v _ hv
    simp [hv]
  · simp

theorem complete_rankGeOne (hK : IsComplete G) (hn : 2 ≤ n) (u : Fin n) :
    RankGeOne G (fun v => if v = u then 0 else 1) := by
  -- {u} is an independent set of the simple graph K_n
  have h := independent_complement_wins G (fun v w => by simp only [hK v w, hK w v, eq_comm])
    (fun v => by simp [hK v v]) (fun v w => by rw [hK v w]; split <;> omega)
    (connected_has_neighbour G hK.connected hn) (fun v => decide (v = u)) fun a b ha hb => by
      rw [of_decide_eq_true ha, of_decide_eq_true hb, hK u u, if_pos rfl]
  simpa using h

theorem outdeg_complete (hK : IsComplete G) (S : Fin n → Bool) (v : Fin n) (hv : S v = true) :
    outdeg G S v = ((univ.filter fun x => ¬ S x = true).card : Int) := by
  unfold outdeg
  rw [Finset.card_filter, Nat.cast_sum]
  refine Finset.sum_congr rfl fun x _ => ?_
  by_cases hx : S x = true
  · simp [hx]
  · have hne : v ≠ x := by rintro rfl; exact hx hv
    simp [hx, hK v x, hne]

theorem card_mem_add_card_not_mem (S : Fin n → Bool) :
    (univ.filter fun v => S v = true).card + (univ.filter fun v => ¬ S v = true).card = n :=
  (Finset.card_filter_add_card_filter_not fun v => S v = true).trans (Finset.card_fin n)

/-- too few chips for any set to fire: its members would hold `|S|·|Sᶜ| ≥ n − 1` between them -/
theorem complete_no_legal (hK : IsComplete G) (w : Fin n) (D : Fin n → Int) (hE : Eff D)
    (hd : deg D < (n : Int) - 1) (S : Fin n → Bool) : ¬ Legal G w D S := by
  rintro ⟨⟨v0, hv0⟩, hSw, hleg⟩
  have hTU := card_mem_add_card_not_mem S
  obtain ⟨t, ht⟩ := Nat.exists_eq_add_of_le' (Finset.card_pos.mpr ⟨v0, by simp [hv0]⟩ :
    0 < (univ.filter fun v => S v = true).card)
  obtain ⟨u, hu⟩ := Nat.exists_eq_add_of_le' (Finset.card_pos.mpr ⟨w, by simp [hSw]⟩ :
    0 < (univ.filter fun v => ¬ S v = true).card)
  have h : (((t + 1) * (u + 1) : Nat) : Int) ≤ deg D := by
    rw [← ht, ← hu, Nat.cast_mul, ← nsmul_eq_mul, ← Finset.sum_const, Finset.sum_filter]
    refine Finset.sum_le_sum fun v _ => ?_
    split_ifs with hS
    · exact outdeg_complete G hK S v hS ▸ hleg v hS
    · exact hE v
  rw [Nat.succ_mul, Nat.mul_succ] at h
  omega

/-- T14 -/
theorem complete_gonality (hK : IsComplete G) (hn : 2 ≤ n) : IsGonality G (n - 1) := by
  have : Nonempty (Fin n) := ⟨⟨0, by omega⟩⟩
  constructor
  · let u : Fin n := ⟨0, by omega⟩
    refine ⟨fun v => if v = u then 0 else 1, fun v => by simp only; split <;> omega, ?_, complete_rankGeOne G hK hn u⟩
    rw [deg, sum_one_of_ne]
    omega
  · intro D hE hd hr
    have hdn : deg D < (n : Int) - 1 := by omega
    -- fewer chips than vertices: some vertex has none
    obtain ⟨w, -, hw1⟩ := Finset.exists_lt_of_sum_lt (s := univ) (f := D) (g := fun _ => (1 : Int))
      (by
        rw [Finset.sum_const, Finset.card_univ, Fintype.card_fin, nsmul_one]
        exact hdn.trans (sub_one_lt _))
    have hw : D w = 0 := by
      have := hE w
      omega
    have hq : QReduced G w (fun v => D v - chipAt w v) := by
      refine ⟨fun v hv => by simp [chipAt, hv, hE v], fun S hL =>
        complete_no_legal G hK w D hE hdn S ⟨hL.1, hL.2.1, fun v hv => (hL.2.2 v hv).trans ?_⟩⟩
      simp only [chipAt]
      split <;> omega
    have := (qreduced_verdict G w _ hq).mp (hr w)
    simp [chipAt, hw] at this

end CF
