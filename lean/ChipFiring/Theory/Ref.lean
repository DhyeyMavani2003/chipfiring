import ChipFiring.Model.Machines
/-
  Vertex references: what `ref?` / `refs?` return.
-/
namespace CF
variable {n : Nat}

theorem ref?_eq_some {i : Nat} {v : Fin n} : ref? n i = some v ↔ v.1 = i := by
  unfold ref?
  split
  · rw [Option.some.injEq, Fin.ext_iff]; exact eq_comm
  · exact ⟨nofun, fun h => absurd (h ▸ v.2) ‹_›⟩

@[simp] theorem ref?_val (v : Fin n) : ref? n v.1 = some v := ref?_eq_some.mpr rfl

theorem ref?_eq_none {i : Nat} : ref? n i = none ↔ n ≤ i := by
  unfold ref?
  split
  · exact ⟨nofun, fun h => absurd ‹_› (Nat.not_lt.mpr h)⟩
  · exact ⟨fun _ => Nat.not_lt.mp ‹_›, fun _ => rfl⟩

theorem refs?_eq_some {S : List Nat} {vs : List (Fin n)} : refs? n S = some vs ↔ vs.map (·.1) = S := by
  induction S generalizing vs with
  | nil => cases vs <;> simp [refs?]
  | cons i S ih =>
    unfold refs?
    cases vs with
    | nil => cases ref? n i <;> cases refs? n S <;> simp
    | cons v vs =>
      rw [List.map_cons, List.cons.injEq, ← ref?_eq_some, ← ih]
      cases ref? n i <;> cases refs? n S <;> simp

theorem refs?_eq_none {S : List Nat} : refs? n S = none ↔ ∃ i ∈ S, n ≤ i := by
  induction S with
  | nil => simp [refs?]
  | cons i S ih =>
    unfold refs?
    cases hi : ref? n i with
    | none => simpa using Or.inl (ref?_eq_none.mp hi)
    | some v =>
      have : ¬ n ≤ i := fun h => by simp [ref?_eq_none.mpr h] at hi
      cases hS : refs? n S <;> simp_all

end CF
