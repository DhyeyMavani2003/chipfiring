import ChipFiring.Theory.Loops
import ChipFiring.Theory.BurnOrient
import ChipFiring.Theory.Potential
/-
  The model of `EWD` as a whole: the sink (minimum degree, least index among ties), every way
  `ewd` can return in either mode, exactness of the verdict.
-/
open Finset

namespace CF
variable {n : Nat} (G : Graph n)

/-- `min(..., key=(degree, name))` is `List.argmin` over the vertices in index order -/
theorem sink_eq_argmin (D : Fin n → Int) : sink D = List.argmin D (List.finRange n) := by
  unfold sink List.argmin
  congr 1
  funext acc v
  cases acc <;> rfl

theorem sink_min {D : Fin n → Int} {q : Fin n} (h : sink D = some q) : ∀ v, D q ≤ D v :=
  fun v => List.le_of_mem_argmin (List.mem_finRange v) (Option.mem_def.mpr (sink_eq_argmin D ▸ h))

/-- If at most one vertex is in debt, it is the sink. -/
theorem debt_only_at_sink {D : Fin n → Int} {u q : Fin n} (hu : ∀ w, w ≠ u → 0 ≤ D w)
    (hq : sink D = some q) (w : Fin n) (hw : w ≠ q) : 0 ≤ D w := by
  by_contra hneg
  have hwu : w = u := by_contra fun h => hneg (hu w h)
  have hqu : q = u := by_contra fun h => hneg ((hu q h).trans (sink_min hq w))
  exact hw (hwu.trans hqu.symm)

theorem exists_sink (D : Fin n → Int) (hn : 0 < n) : ∃ q, sink D = some q := by
  rw [← Option.isSome_iff_exists, Option.isSome_iff_ne_none, sink_eq_argmin, Ne, List.argmin_eq_none]
  exact List.ne_nil_of_mem (List.mem_finRange ⟨0, hn⟩)

/-- the snapshots EWD has recorded when the reduction starts -/
def ewdPre (Dv : Divisor n) (opt : Bool) : List (Vec Int n) :=
  Dv.degV :: if opt then [Dv.degV, Dv.degV] else []

theorem ewd_eq (hint : Fin n → List (Fin n)) (fuel : Nat) (Dv : Divisor n) (opt : Bool) :
    ewd G hint fuel Dv opt =
      if opt = true ∧ Dv.total < 0 then some (.ok ⟨false, none, none, [Dv.degV]⟩)
      else if opt = true ∧ G.genus ≤ Dv.total then some (.ok ⟨true, none, none, [Dv.degV, Dv.degV]⟩)
      else match sink Dv.deg with
        | none => some (.error ())
        | some q => (reduceLoop G q (debtOrder G hint q) fuel fuel Dv.deg (ewdPre Dv opt) 0).map fun r =>
            .ok ⟨decide (0 ≤ r.D q), some q, some r, (r.DV :: r.tr).reverse⟩ := by
  unfold ewd ewdPre
  simp only [Bool.and_eq_true, decide_eq_true_eq, ge_iff_le]
  congr 2
  cases sink Dv.deg with
  | none => rfl
  | some q => dsimp only; cases reduceLoop G q (debtOrder G hint q) fuel fuel Dv.deg _ 0 <;> rfl

/-- every way `ewd` can return: a shortcut of the optimized mode, or the sink and the reduction -/
theorem ewd_ok {hint : Fin n → List (Fin n)} {fuel : Nat} {Dv : Divisor n} {opt : Bool} {r : EwdOut n}
    (h : ewd G hint fuel Dv opt = some (.ok r)) :
    (opt = true ∧ Dv.total < 0 ∧ r = ⟨false, none, none, [Dv.degV]⟩) ∨
    (opt = true ∧ G.genus ≤ Dv.total ∧ r = ⟨true, none, none, [Dv.degV, Dv.degV]⟩) ∨
    ∃ q red, sink Dv.deg = some q ∧
      reduceLoop G q (debtOrder G hint q) fuel fuel Dv.deg (ewdPre Dv opt) 0 = some red ∧
      r = ⟨decide (0 ≤ red.D q), some q, some red, (red.DV :: red.tr).reverse⟩ := by
  rw [ewd_eq] at h
  split_ifs at h with h1 h2
  · exact Or.inl ⟨h1.1, h1.2, by simpa using h.symm⟩
  · exact Or.inr (Or.inl ⟨h2.1, h2.2, by simpa using h.symm⟩)
  · split at h
    · simp at h
    · rename_i q hq
      obtain ⟨red, hred, hr⟩ := Option.map_eq_some_iff.mp h
      exact Or.inr (Or.inr ⟨q, red, hq, hred, by simpa using hr.symm⟩)

theorem ewd_ok_of_reduceLoop {hint : Fin n → List (Fin n)} {fuel : Nat} {Dv : Divisor n} {opt : Bool} {q : Fin n}
    (hq : sink Dv.deg = some q)
    (hred : ∃ red, reduceLoop G q (debtOrder G hint q) fuel fuel Dv.deg (ewdPre Dv opt) 0 = some red) :
    ∃ r, ewd G hint fuel Dv opt = some (.ok r) := by
  obtain ⟨red, hred⟩ := hred
  rw [ewd_eq, hq]
  simp only [hred, Option.map_some]
  split_ifs <;> exact ⟨_, rfl⟩

theorem ewd_ne_error (hn : 0 < n) (hint : Fin n → List (Fin n)) (fuel : Nat) (Dv : Divisor n) (opt : Bool) :
    ewd G hint fuel Dv opt ≠ some (.error ()) := by
  obtain ⟨q, hq⟩ := exists_sink Dv.deg hn
  rw [ewd_eq, hq]
  split_ifs <;> simp

/-- `ewd` returned `r` by way of the reduction: `q` is the sink it chose, `red` what the loop returned -/
structure EwdRed (hint : Fin n → List (Fin n)) (Dv : Divisor n) (opt : Bool) (r : EwdOut n) (q : Fin n)
    (red : Reduced n) : Prop
    extends IsReduction G q (debtOrder G hint q) Dv.deg (ewdPre Dv opt) red where
  sink_eq : sink Dv.deg = some q
  q_eq : r.q = some q
  red_eq : r.red = some red
  verdict_eq : r.verdict = decide (0 ≤ red.D q)
  tr_eq : r.tr = (red.DV :: red.tr).reverse

theorem ewd_red (hs : ∀ v w, G.adj v w = G.adj w v) {hint : Fin n → List (Fin n)} {fuel : Nat}
    {Dv : Divisor n} {opt : Bool} {r : EwdOut n} {red : Reduced n}
    (h : ewd G hint fuel Dv opt = some (.ok r)) (hr : r.red = some red) :
    ∃ q, EwdRed G hint Dv opt r q red := by
  rcases ewd_ok G h with ⟨-, -, rfl⟩ | ⟨-, -, rfl⟩ | ⟨q, red', hq, hred, rfl⟩
  · simp at hr
  · simp at hr
  · obtain rfl : red' = red := by simpa using hr
    exact ⟨q, reduceLoop_isReduction G hs hred, hq, rfl, rfl, rfl, rfl⟩

/-- the plain mode has no other way to return -/
theorem ewd_plain (hs : ∀ v w, G.adj v w = G.adj w v) {hint : Fin n → List (Fin n)} {fuel : Nat}
    {Dv : Divisor n} {r : EwdOut n} (h : ewd G hint fuel Dv false = some (.ok r)) :
    ∃ q red, EwdRed G hint Dv false r q red := by
  rcases ewd_ok G h with ⟨ho, -⟩ | ⟨ho, -⟩ | ⟨q, red, hq, hred, rfl⟩
  · simp at ho
  · simp at ho
  · exact ⟨q, red, reduceLoop_isReduction G hs hred, hq, rfl, rfl, rfl, rfl⟩

/-- the shortcuts of the optimized mode need the cached total and (for degree ≥ genus) connectedness -/
theorem ewd_verdict_exact (hG : G.WF) {hint : Fin n → List (Fin n)} {fuel : Nat} {Dv : Divisor n}
    {opt : Bool} {r : EwdOut n} (hcover : ∀ q v, v ≠ q → v ∈ debtOrder G hint q)
    (hopt : opt = true → G.Connected ∧ Dv.total = deg Dv.deg)
    (h : ewd G hint fuel Dv opt = some (.ok r)) : r.verdict = true ↔ Winnable G Dv.deg := by
  rcases ewd_ok G h with ⟨ho, hneg, rfl⟩ | ⟨ho, hge, rfl⟩ | ⟨q, red, -, hred, rfl⟩
  · have := not_winnable_of_deg_neg G hG.symm (D := Dv.deg) (by rw [← (hopt ho).2]; exact hneg)
    simp [this]
  · obtain ⟨hc, htot⟩ := hopt ho
    simp only [true_iff]
    rcases Nat.eq_zero_or_pos n with rfl | hn
    · exact ⟨Dv.deg, LinEq.refl G _, fun v => v.elim0⟩
    · exact winnable_of_deg_ge_genus G hG hc hn Dv.deg (by rw [← htot]; exact hge)
  · rw [decide_eq_true_eq]
    exact (reduceLoop_isReduction G hG.symm hred).verdict (hcover q)

end CF
