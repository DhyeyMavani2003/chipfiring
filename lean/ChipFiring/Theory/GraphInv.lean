import ChipFiring.Spec.Basic
import ChipFiring.Theory.Ref
/-
  The graph machine keeps the well-formedness invariant (symmetric, loopless, caches exact); the
  adjacency after a batch of insertions and after the constructor.
-/
open Finset

namespace CF
variable {n : Nat}

theorem Graph.empty_wf : (Graph.empty : Graph n).WF := by
  refine ⟨?_, ?_, ?_, ?_⟩ <;> simp [Graph.empty]

theorem Graph.addEdge_ok {G G' : Graph n} {a b : Nat} {k : Int} (h : G.addEdge a b k = .ok G') :
    ∃ (a' b' : Fin n) (m : Nat), a'.1 = a ∧ b'.1 = b ∧ a' ≠ b' ∧ 0 < m ∧ (m : Int) = k ∧
      G' = Graph.ofFns (fun x y => if (x = a' ∧ y = b') ∨ (x = b' ∧ y = a') then G.adj x y + m else G.adj x y)
        (fun x => if x = a' ∨ x = b' then G.val x + m else G.val x) (G.total + m) := by
  -- the two guards passed, and both names resolved
  have hab : a ≠ b := fun e => by simp [Graph.addEdge, e] at h
  have hk : ¬ k ≤ 0 := fun e => by simp [Graph.addEdge, hab, e] at h
  rw [Graph.addEdge, if_neg hab, if_neg hk] at h
  split at h
  · rename_i a' b' ha hb
    refine ⟨a', b', k.toNat, ref?_eq_some.mp ha, ref?_eq_some.mp hb, fun hc => hab ?_, by omega, by omega,
      (Except.ok.inj h).symm⟩
    rw [← ref?_eq_some.mp ha, ← ref?_eq_some.mp hb, hc]
  · cases h

theorem Graph.addEdge_accepts (G : Graph n) {a b : Nat} {k : Int} (ha : a < n) (hb : b < n) (hab : a ≠ b) (hk : 0 < k) :
    ∃ G', G.addEdge a b k = .ok G' := by
  unfold Graph.addEdge
  rw [if_neg hab, if_neg (not_le.mpr hk), ref?_eq_some.mpr (rfl : (⟨a, ha⟩ : Fin n).1 = a),
    ref?_eq_some.mpr (rfl : (⟨b, hb⟩ : Fin n).1 = b)]
  exact ⟨_, rfl⟩

theorem ite_or_add {p q : Prop} [Decidable p] [Decidable q] (hpq : ¬ (p ∧ q)) (x m : Nat) :
    (if p ∨ q then x + m else x) = x + (if p then m else 0) + (if q then m else 0) := by
  by_cases hp : p <;> by_cases hq : q <;> simp_all

theorem Graph.addEdge_wf {G G' : Graph n} {a b : Nat} {k : Int} (hG : G.WF) (h : G.addEdge a b k = .ok G') :
    G'.WF := by
  obtain ⟨a', b', m, -, -, hab, -, -, rfl⟩ := Graph.addEdge_ok h
  -- the two directions of the new edge never coincide, so the insertion is additive
  have hadj : ∀ x y, (if (x = a' ∧ y = b') ∨ (x = b' ∧ y = a') then G.adj x y + m else G.adj x y)
      = G.adj x y + (if x = a' ∧ y = b' then m else 0) + (if x = b' ∧ y = a' then m else 0) :=
    fun x y => ite_or_add (fun hc => hab (hc.1.1.symm.trans hc.2.1)) _ _
  have hval : ∀ x, (if x = a' ∨ x = b' then G.val x + m else G.val x)
      = G.val x + (if x = a' then m else 0) + (if x = b' then m else 0) :=
    fun x => ite_or_add (fun hc => hab (hc.1.symm.trans hc.2)) _ _
  simp only [hadj, hval]
  refine ⟨fun v w => ?_, fun v => ?_, fun v => ?_, ?_⟩
  · rw [Graph.adj_ofFns, hG.symm v w, add_right_comm]
    simp only [and_comm]
  · rw [Graph.adj_ofFns, hG.loopless, if_neg fun hc => hab (hc.1.symm.trans hc.2),
      if_neg fun hc => hab (hc.2.symm.trans hc.1)]
  · -- each direction of the new edge adds `m` to the row sum of its source
    rw [Graph.val_ofFns, hG.val_eq v]
    simp only [Graph.adj_ofFns, Finset.sum_add_distrib, ite_and, Finset.sum_ite_irrel, Finset.sum_ite_eq',
      Finset.mem_univ, if_true, Finset.sum_const_zero]
  · simp only [Graph.val_ofFns, Graph.total_ofFns, Finset.sum_add_distrib, Finset.sum_ite_eq', Finset.mem_univ,
      if_true, mul_add, hG.total_eq]
    ring

theorem Graph.addEdges_cons_ok {G G' : Graph n} {a b : Nat} {k : Int} (es : List (Nat × Nat × Int))
    (h : G.addEdge a b k = .ok G') : G.addEdges ((a, b, k) :: es) = G'.addEdges es := by
  simp only [Graph.addEdges, h]

theorem Graph.addEdges_cons_error {G : Graph n} {a b : Nat} {k : Int} {u : Unit} (es : List (Nat × Nat × Int))
    (h : G.addEdge a b k = .error u) : G.addEdges ((a, b, k) :: es) = (G, false) := by
  simp only [Graph.addEdges, h]

theorem Graph.addEdges_wf {G : Graph n} (hG : G.WF) (es : List (Nat × Nat × Int)) : (G.addEdges es).1.WF := by
  fun_induction Graph.addEdges G es with
  | case1 G => exact hG
  | case2 G a b k es G' h ih => exact ih (Graph.addEdge_wf hG h)
  | case3 => exact hG

theorem Graph.new_eq_ok_iff {dup : Bool} {es : List (Nat × Nat × Int)} {G : Graph n} :
    Graph.new n dup es = .ok G ↔ dup = false ∧ (Graph.empty : Graph n).addEdges es = (G, true) := by
  unfold Graph.new
  cases dup
  · rcases (Graph.empty : Graph n).addEdges es with ⟨G', _ | _⟩ <;> simp
  · simp

theorem Graph.new_wf {dup : Bool} {es : List (Nat × Nat × Int)} {G : Graph n} (h : Graph.new n dup es = .ok G) :
    G.WF := by
  have := Graph.addEdges_wf (Graph.empty_wf (n := n)) es
  rwa [(Graph.new_eq_ok_iff.mp h).2] at this

/-- contribution of one inserted edge to the multiplicity of the pair x, y -/
def edgeContrib (e : Nat × Nat × Int) (x y : Fin n) : Nat :=
  if (x.1 = e.1 ∧ y.1 = e.2.1) ∨ (x.1 = e.2.1 ∧ y.1 = e.1) then e.2.2.toNat else 0

theorem Graph.addEdge_adj {G G' : Graph n} {a b : Nat} {k : Int} (h : G.addEdge a b k = .ok G') (x y : Fin n) :
    G'.adj x y = G.adj x y + edgeContrib (a, b, k) x y := by
  obtain ⟨a', b', m, rfl, rfl, -, -, rfl, rfl⟩ := Graph.addEdge_ok h
  simp only [Graph.adj_ofFns, edgeContrib, Fin.val_inj, Int.toNat_natCast]
  split_ifs <;> rfl

theorem Graph.addEdges_adj (es : List (Nat × Nat × Int)) (G : Graph n) :
    ∀ G', G.addEdges es = (G', true) →
      ∀ x y, G'.adj x y = G.adj x y + (es.map fun e => edgeContrib e x y).sum := by
  fun_induction Graph.addEdges G es with
  | case1 G => intro G' h x y; cases h; simp
  | case2 G a b k es G1 hadd ih =>
    intro G' h x y
    rw [ih G' h x y, Graph.addEdge_adj hadd, List.map_cons, List.sum_cons, add_assoc]
  | case3 => exact fun _ h => nomatch h

theorem Graph.addEdges_accepts (es : List (Nat × Nat × Int)) (G : Graph n)
    (hv : ∀ e ∈ es, e.1 < n ∧ e.2.1 < n ∧ e.1 ≠ e.2.1 ∧ 0 < e.2.2) : (G.addEdges es).2 = true := by
  fun_induction Graph.addEdges G es with
  | case1 => rfl
  | case2 G a b k es G' h ih => exact ih fun e he => hv e (List.mem_cons_of_mem _ he)
  | case3 G a b k es u h =>
    obtain ⟨h1, h2, h3, h4⟩ := hv (a, b, k) List.mem_cons_self
    obtain ⟨G1, hG1⟩ := Graph.addEdge_accepts G h1 h2 h3 h4
    exact nomatch hG1.symm.trans h

theorem Graph.new_adj {dup : Bool} {es : List (Nat × Nat × Int)} {G : Graph n} (h : Graph.new n dup es = .ok G)
    (x y : Fin n) : G.adj x y = (es.map fun e => edgeContrib e x y).sum := by
  rw [Graph.addEdges_adj es _ G (Graph.new_eq_ok_iff.mp h).2 x y]
  simp [Graph.empty]

theorem Graph.new_accepts {es : List (Nat × Nat × Int)} (hv : ∀ e ∈ es, e.1 < n ∧ e.2.1 < n ∧ e.1 ≠ e.2.1 ∧ 0 < e.2.2) :
    ∃ G : Graph n, Graph.new n false es = .ok G :=
  ⟨_, Graph.new_eq_ok_iff.mpr ⟨rfl, Prod.ext rfl (Graph.addEdges_accepts es _ hv)⟩⟩

theorem gapply_wf {G : Graph n} (hG : G.WF) (o : GOp) : (gapply G o).WF := by
  cases o with
  | add a b k =>
    simp only [gapply]
    cases h : G.addEdge a b k with
    | ok G' => exact Graph.addEdge_wf hG h
    | error e => exact hG
  | adds es => exact Graph.addEdges_wf hG es
  | valence v => exact hG
  | remove v => exact hG

theorem removeVertex_wf (G : Graph n) (v : Fin n) : (removeVertex G v).WF :=
  Graph.addEdges_wf Graph.empty_wf _

theorem genus_formula {G : Graph n} (hG : G.WF) :
    G.genus = (∑ v, ∑ w, (G.adj v w : Int)) / 2 - n + 1 := by
  unfold Graph.genus
  rw [hG.sum_adj]
  omega

/-- the model's canonical divisor (cached valences) is the specification's -/
theorem canonicalOf_eq (G : Graph n) (hG : G.WF) : canonicalOf G = canonical G :=
  funext fun v => by simp only [canonicalOf, canonical, hG.val_cast]

/-- a well-formed graph is determined by its adjacency: the caches carry no information -/
theorem Graph.WF.ext {G H : Graph n} (hG : G.WF) (hH : H.WF) (h : G.adj = H.adj) : G = H := by
  have hval : G.val = H.val := funext fun v => by rw [hG.val_eq, hH.val_eq, h]
  have htot : G.total = H.total := by
    have := hG.total_eq
    rw [hval, ← hH.total_eq] at this
    omega
  cases G
  cases H
  simp only [Graph.mk.injEq]
  exact ⟨Vec.ext_get (funext fun v => Vec.ext_get (funext fun w => congrFun (congrFun h v) w)),
    Vec.ext_get hval, htot⟩

end CF
