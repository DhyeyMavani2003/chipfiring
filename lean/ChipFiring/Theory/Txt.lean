import ChipFiring.Model.Txt
import Mathlib.Data.List.Basic
import Mathlib.Data.List.TakeWhile
/-
  The field layer of the TXT format round-trips: `split(',')` and `strip()` undo `', '.join` on
  fields without commas that `strip()` leaves alone, and `replace(PREFIX, "")` removes exactly the
  prefix from a written record line; the decimal text of an integer is such a field.
-/
namespace CF.Txt

theorem splitOn_ne_nil (sep : Char) (s : List Char) : splitOn sep s ≠ [] := by
  fun_cases splitOn sep s <;> simp

theorem splitOn_append (sep : Char) (f rest : List Char) (hf : sep ∉ f) :
    splitOn sep (f ++ sep :: rest) = f :: splitOn sep rest := by
  induction f with
  | nil => simp [splitOn]
  | cons c cs ih =>
    have hc : c ≠ sep := fun e => hf (e ▸ List.mem_cons_self)
    have := ih (fun hx => hf (List.mem_cons_of_mem _ hx))
    simp only [List.cons_append, splitOn, hc, if_false, this]

theorem splitOn_single (sep : Char) (f : List Char) (hf : sep ∉ f) : splitOn sep f = [f] := by
  induction f with
  | nil => simp [splitOn]
  | cons c cs ih =>
    have hc : c ≠ sep := fun e => hf (e ▸ List.mem_cons_self)
    have := ih (fun hx => hf (List.mem_cons_of_mem _ hx))
    simp only [splitOn, hc, if_false, this]

theorem stripPy_cons_space (s : List Char) : stripPy (' ' :: s) = stripPy s := by
  unfold stripPy
  rw [List.dropWhile_cons, if_pos (by decide)]

theorem cleanField_iff (f : List Char) : cleanField f = true ↔ ',' ∉ f ∧ stripPy f = f := by
  simp [cleanField]

/-- the first field, as written after `PREFIX:`, carries the blank the writer puts there -/
theorem parse_join (fs : List (List Char)) (hne : fs ≠ []) (hclean : ∀ f ∈ fs, cleanField f = true) :
    parseFields (' ' :: joinFields fs) = fs := by
  have hsp : ∀ f ∈ fs, ',' ∉ ' ' :: f ∧ stripPy f = f := fun f hf => by
    obtain ⟨hf1, hf2⟩ := (cleanField_iff f).mp (hclean f hf)
    exact ⟨fun hc => (List.mem_cons.mp hc).elim (by decide) hf1, hf2⟩
  induction fs using joinFields.induct with
  | case1 => exact absurd rfl hne
  | case2 f =>
    obtain ⟨h1, h2⟩ := hsp f List.mem_cons_self
    rw [joinFields, parseFields, splitOn_single ',' _ h1, List.map_singleton, stripPy_cons_space, h2]
  | case3 f g gs ih =>
    obtain ⟨h1, h2⟩ := hsp f List.mem_cons_self
    have ih' := ih (List.cons_ne_nil _ _) (fun x hx => hclean x (List.mem_cons_of_mem _ hx))
      fun x hx => hsp x (List.mem_cons_of_mem _ hx)
    have : ' ' :: (f ++ [',', ' '] ++ joinFields (g :: gs)) = (' ' :: f) ++ ',' :: (' ' :: joinFields (g :: gs)) := by
      simp
    rw [parseFields] at ih' ⊢
    rw [joinFields, this, splitOn_append ',' (' ' :: f) _ h1, List.map_cons, stripPy_cons_space, h2, ih']

theorem repr_ofNat (n : Nat) : (Int.ofNat n).repr.toList = Nat.toDigits 10 n := Nat.toList_repr

theorem repr_negSucc (n : Nat) : (Int.negSucc n).repr.toList = '-' :: Nat.toDigits 10 (n + 1) := by
  show ("-" ++ Nat.repr (n + 1)).toList = _
  rw [String.toList_append, Nat.toList_repr]
  rfl

theorem isDigit_of_mem_toDigits (m : Nat) : ∀ c ∈ Nat.toDigits 10 m, c.isDigit = true := fun _ hc =>
  Nat.isDigit_of_mem_toDigits (by omega) (by omega) hc

theorem chars_of_repr (k : Int) : ∀ c ∈ k.repr.toList, c.isDigit = true ∨ c = '-' := by
  cases k with
  | ofNat n =>
    rw [repr_ofNat]
    exact fun c hc => .inl (isDigit_of_mem_toDigits n c hc)
  | negSucc n =>
    rw [repr_negSucc]
    exact fun c hc => (List.mem_cons.mp hc).elim .inr fun h => .inl (isDigit_of_mem_toDigits _ c h)

theorem not_space_of_digit_or_minus (c : Char) (h : c.isDigit = true ∨ c = '-') : isSpacePy c = false := by
  rcases h with h | rfl
  · have : 48 ≤ c.toNat ∧ c.toNat ≤ 57 := Char.isDigit_iff_toNat.mp h
    simp only [isSpacePy, Char.toNat] at this ⊢
    simp only [Bool.or_eq_false_iff, Bool.and_eq_false_iff, decide_eq_false_iff_not, beq_eq_false_iff_ne]
    omega
  · decide

theorem strip_fixed_of_no_space (f : List Char) (h : ∀ c ∈ f, isSpacePy c = false) : stripPy f = f := by
  have dw : ∀ l : List Char, (∀ c ∈ l, isSpacePy c = false) → l.dropWhile isSpacePy = l := by
    intro l hl
    cases l with
    | nil => rfl
    | cons a as => simp [hl a List.mem_cons_self]
  unfold stripPy
  rw [dw f h, dw f.reverse (fun c hc => h c (List.mem_reverse.mp hc)), List.reverse_reverse]

theorem int_field_clean (k : Int) : cleanField k.repr.toList = true := by
  have hch := chars_of_repr k
  refine (cleanField_iff _).mpr ⟨fun hmem => ?_, strip_fixed_of_no_space _ fun c hc => not_space_of_digit_or_minus c (hch c hc)⟩
  rcases hch ',' hmem with h | h <;> exact absurd h (by decide)

theorem removeAll_of_not_mem (p s : List Char) (x : Char) (hx : x ∈ p) (hs : x ∉ s) : removeAll p s = s := by
  fun_induction removeAll p s with
  | case1 => rfl
  | case2 c cs hpre _ => exact absurd ((List.isPrefixOf_iff_prefix.mp hpre.2).subset hx) hs
  | case3 c cs _ ih => rw [ih fun h => hs (List.mem_cons_of_mem _ h)]

/-- the reader's `line.replace(PREFIX, "")`: the remainder lacks some character of the prefix (the
    colon), so only the prefix goes -/
theorem removeAll_prefix (p rest : List Char) (x : Char) (hx : x ∈ p) (hr : x ∉ rest) :
    removeAll p (p ++ rest) = rest := by
  cases hpc : p ++ rest with
  | nil => simp at hpc; exact absurd hpc.1 (List.ne_nil_of_mem hx)
  | cons c cs =>
    rw [removeAll]
    have hpre : p.isPrefixOf (c :: cs) = true := by
      rw [← hpc]; exact List.isPrefixOf_iff_prefix.mpr (List.prefix_append p rest)
    rw [if_pos ⟨List.ne_nil_of_mem hx, hpre⟩, ← hpc, List.drop_left]
    exact removeAll_of_not_mem p rest x hx hr

theorem not_mem_fields (x : Char) (hx1 : x ≠ ',') (hx2 : x ≠ ' ') (fs : List (List Char))
    (h : ∀ f ∈ fs, x ∉ f) : x ∉ ' ' :: joinFields fs := by
  rw [List.mem_cons, not_or]
  refine ⟨hx2, ?_⟩
  induction fs using joinFields.induct with
  | case1 => exact List.not_mem_nil
  | case2 f => exact h f List.mem_cons_self
  | case3 f g gs ih =>
    simp only [joinFields, List.mem_append, List.mem_cons, List.not_mem_nil, or_false, not_or]
    exact ⟨⟨h f List.mem_cons_self, hx1, hx2⟩, ih fun y hy => h y (List.mem_cons_of_mem _ hy)⟩

theorem removeAll_line (P : List Char) (hP : ':' ∈ P) (fs : List (List Char)) (hcolon : ∀ f ∈ fs, ':' ∉ f) :
    removeAll P (P ++ ' ' :: joinFields fs) = ' ' :: joinFields fs :=
  removeAll_prefix P _ ':' hP (not_mem_fields ':' (by decide) (by decide) fs hcolon)

/-- a record line: `PREFIX` (containing a colon), a blank, the comma-separated fields; the reader
    strips the prefix with `str.replace`, splits at commas and strips each part -/
theorem line_roundtrip (P : List Char) (hP : ':' ∈ P) (fs : List (List Char)) (hne : fs ≠ [])
    (hclean : ∀ f ∈ fs, cleanField f = true) (hcolon : ∀ f ∈ fs, ':' ∉ f) :
    parseFields (removeAll P (P ++ ' ' :: joinFields fs)) = fs := by
  rw [removeAll_line P hP fs hcolon]
  exact parse_join fs hne hclean

end CF.Txt
