import ChipFiring.Spec.Basic
import ChipFiring.Model.Machines
/-
  The orientation machine keeps its counters exact: after any history of `set_orientation` calls
  (refused ones included) the stored in/out-degrees are the multiplicities of the edges pointing in/out,
  both endpoints agree on every edge, and a fullness flag that claims to be up to date is right.
-/
open Finset

namespace CF
variable {n : Nat}

namespace Orient

/-- indicators of the oriented states `1` (row → column) and `2` (column → row) -/
def I1 (s : Nat) : Int := if s = 1 then 1 else 0
def I2 (s : Nat) : Int := if s = 2 then 1 else 0

/-- total multiplicity of the edges pointing into `v` according to the edge states (`outSpec`: out of `v`) -/
def inSpec (G : Graph n) (o : Orient n) (v : Fin n) : Int := ∑ u, I1 (o.st u v) * (G.adj u v : Int)
def outSpec (G : Graph n) (o : Orient n) (v : Fin n) : Int := ∑ u, I1 (o.st v u) * (G.adj v u : Int)

structure Inv (G : Graph n) (o : Orient n) : Prop where
  range : ∀ u v, o.st u v ≤ 2
  zero : ∀ u v, G.adj u v = 0 → o.st u v = 0
  agree : ∀ u v, o.st v u = flip (o.st u v)
  inOk : ∀ v, o.inD v = inSpec G o v
  outOk : ∀ v, o.outD v = outSpec G o v
  flag : o.isFullChecked = true → (o.isFull = true ↔ fullNow G o = true)

theorem flip_le (s : Nat) : flip s ≤ 2 := by unfold flip; split <;> [omega; (split <;> omega)]
theorem flip_flip (s : Nat) (h : s ≤ 2) : flip (flip s) = s := by
  obtain rfl | rfl | rfl : s = 0 ∨ s = 1 ∨ s = 2 := by omega
  all_goals rfl
theorem flip_ne_zero (s : Nat) (h : s ≤ 2) : flip s ≠ 0 ↔ s ≠ 0 := by
  obtain rfl | rfl | rfl : s = 0 ∨ s = 1 ∨ s = 2 := by omega
  all_goals decide
theorem I1_flip (s : Nat) : I1 (flip s) = I2 s := by unfold I1 I2 flip; split_ifs <;> simp_all
theorem I2_flip (s : Nat) : I2 (flip s) = I1 s := by unfold I1 I2 flip; split_ifs <;> simp_all

theorem blank_inv (G : Graph n) : Inv G (blank : Orient n) := by
  refine ⟨?_, ?_, ?_, ?_, ?_, ?_⟩ <;> simp [blank, st, inD, outD, inSpec, outSpec, I1, flip]

/-- one half of `set_orientation` (taking the old state off, putting the new one on): state `s`
    moves a counter by `m` at the vertex the edge then points to (`p`) or from (`q`) -/
theorem shift_eq (p q : Prop) [Decidable p] [Decidable q] (s : Nat) (x m : Int) :
    (if s = 1 then (if p then x + m else x) else if s = 2 then (if q then x + m else x) else x)
      = x + (if p then I1 s * m else 0) + (if q then I2 s * m else 0) := by
  by_cases h1 : s = 1
  · subst h1; by_cases hp : p <;> simp [I1, I2, hp]
  · by_cases h2 : s = 2
    · subst h2; by_cases hq : q <;> simp [I1, I2, hq]
    · simp [I1, I2, h1, h2]

/-- an accepted call: each counter moves by the change of the indicator of the direction it counts -/
theorem setO_ok {G : Graph n} {o o' : Orient n} {src snk : Fin n} {state : Nat}
    (h : setO G o src snk state = .ok o') :
    G.adj src snk ≠ 0 ∧ src ≠ snk ∧
    (∀ a b, o'.st a b = if a = src ∧ b = snk then state else if a = snk ∧ b = src then flip state else o.st a b) ∧
    (∀ w, o'.inD w = o.inD w + (if w = snk then (I1 state - I1 (o.st src snk)) * (G.adj src snk : Int) else 0)
                          + (if w = src then (I2 state - I2 (o.st src snk)) * (G.adj src snk : Int) else 0)) ∧
    (∀ w, o'.outD w = o.outD w + (if w = src then (I1 state - I1 (o.st src snk)) * (G.adj src snk : Int) else 0)
                          + (if w = snk then (I2 state - I2 (o.st src snk)) * (G.adj src snk : Int) else 0)) ∧
    o'.isFull = (if state = 0 then false else o.isFull) ∧
    o'.isFullChecked = (if state = 0 then true else if o.st src snk = 0 then false else o.isFullChecked) := by
  by_cases hc : G.adj src snk = 0 ∨ src = snk
  · rw [setO, if_pos hc] at h; cases h
  · rw [setO, if_neg hc] at h
    obtain rfl := (Except.ok.inj h).symm
    push Not at hc
    refine ⟨hc.1, hc.2, fun a b => by simp [st], fun w => ?_, fun w => ?_, rfl, rfl⟩
    · simp only [inD, get_mat, sub_eq_add_neg, shift_eq]
      split_ifs <;> ring
    · simp only [outD, get_mat, sub_eq_add_neg, shift_eq]
      split_ifs <;> ring

theorem setO_accepts (G : Graph n) (o : Orient n) (a b : Fin n) (s : Nat) (h : G.adj a b ≠ 0) (hab : a ≠ b) :
    ∃ o', setO G o a b s = .ok o' := by
  unfold setO
  rw [if_neg (by push Not; exact ⟨h, hab⟩)]
  exact ⟨_, rfl⟩

theorem fullNow_iff (G : Graph n) (o : Orient n) :
    fullNow G o = true ↔ ∀ u v : Fin n, 0 < G.adj u v → u.1 < v.1 → o.st u v ≠ 0 := by
  simp only [fullNow, allF_iff, Bool.or_eq_true, Bool.not_eq_eq_eq_not, Bool.not_true,
    Bool.and_eq_false_imp, decide_eq_true_eq, decide_eq_false_iff_not]
  exact forall₂_congr fun u v => by tauto

/-- with both endpoints agreeing, fullness does not depend on the index order -/
theorem fullNow_iff_all {G : Graph n} (hsym : ∀ v w, G.adj v w = G.adj w v) (hl : ∀ v, G.adj v v = 0)
    {o : Orient n} (hrange : ∀ u v, o.st u v ≤ 2) (hagree : ∀ u v, o.st v u = flip (o.st u v)) :
    fullNow G o = true ↔ ∀ u v : Fin n, 0 < G.adj u v → o.st u v ≠ 0 := by
  rw [fullNow_iff]
  refine ⟨fun h u v huv => ?_, fun h u v huv _ => h u v huv⟩
  rcases Nat.lt_trichotomy u.1 v.1 with hlt | heq | hgt
  · exact h u v huv hlt
  · rw [Fin.ext heq, hl] at huv; exact absurd huv (lt_irrefl 0)
  · rw [hagree v u, flip_ne_zero _ (hrange v u)]
    exact h v u (hsym u v ▸ huv) hgt

/-- column sums of any indicator `J` of the edge states: only the two endpoints see a change -/
theorem colSum_setO (J : Nat → Int) {G : Graph n} (hsym : ∀ v w, G.adj v w = G.adj w v) {o o' : Orient n}
    {src snk : Fin n} {state : Nat} (h : setO G o src snk state = .ok o') (v : Fin n) :
    ∑ u, J (o'.st u v) * (G.adj u v : Int) = ∑ u, J (o.st u v) * (G.adj u v : Int)
      + (if v = snk then (J state - J (o.st src snk)) * (G.adj src snk : Int) else 0)
      + (if v = src then (J (flip state) - J (o.st snk src)) * (G.adj src snk : Int) else 0) := by
  obtain ⟨-, hne, hst, -⟩ := setO_ok h
  have hJ : ∀ a b, J (o'.st a b) = J (o.st a b)
      + (if a = src ∧ b = snk then J state - J (o.st src snk) else 0)
      + (if a = snk ∧ b = src then J (flip state) - J (o.st snk src) else 0) := by
    intro a b
    rw [hst a b]
    by_cases h1 : a = src ∧ b = snk
    · obtain ⟨rfl, rfl⟩ := h1; simp [hne]
    · by_cases h2 : a = snk ∧ b = src
      · obtain ⟨rfl, rfl⟩ := h2; simp [hne.symm]
      · simp [h1, h2]
  simp only [hJ, ite_and, add_mul, Finset.sum_add_distrib, ite_mul, zero_mul, Finset.sum_ite_eq',
    Finset.mem_univ, if_true]
  congr 1
  · congr 1
    split_ifs with hv
    · rw [hv]
    · rfl
  · split_ifs with hv
    · rw [hv, hsym snk src]
    · rfl

/-- seen from the other endpoint, the out-degree is the column sum of the states `2` -/
theorem outSpec_eq {G : Graph n} (hsym : ∀ v w, G.adj v w = G.adj w v) {o : Orient n}
    (hagree : ∀ u v, o.st v u = flip (o.st u v)) (v : Fin n) :
    outSpec G o v = ∑ u, I2 (o.st u v) * (G.adj u v : Int) :=
  Finset.sum_congr rfl fun u _ => by rw [hagree u v, I1_flip, hsym v u]

theorem setO_inv {G : Graph n} (hG : G.WF) {o o' : Orient n} {src snk : Fin n} {state : Nat}
    (hinv : Inv G o) (hs : state ≤ 2) (h : setO G o src snk state = .ok o') : Inv G o' := by
  obtain ⟨hadj, hne, hst, hin, hout, hfull, hchk⟩ := setO_ok h
  have hsym := hG.symm
  have hagree : ∀ u v, o'.st v u = flip (o'.st u v) := by
    intro u v
    rw [hst v u, hst u v]
    by_cases h1 : u = src ∧ v = snk
    · obtain ⟨rfl, rfl⟩ := h1; simp [hne, hne.symm]
    · by_cases h2 : u = snk ∧ v = src
      · obtain ⟨rfl, rfl⟩ := h2; simp [hne, hne.symm, flip_flip _ hs]
      · rw [if_neg h1, if_neg h2, if_neg (h2 ∘ And.symm), if_neg (h1 ∘ And.symm)]; exact hinv.agree u v
  have hrange : ∀ u v, o'.st u v ≤ 2 := by
    intro u v; rw [hst]; split_ifs
    exacts [hs, flip_le _, hinv.range u v]
  refine ⟨hrange, ?_, hagree, ?_, ?_, ?_⟩
  · intro u v huv; rw [hst]
    have h1 : ¬ (u = src ∧ v = snk) := by rintro ⟨rfl, rfl⟩; exact hadj huv
    have h2 : ¬ (u = snk ∧ v = src) := by rintro ⟨rfl, rfl⟩; rw [hsym] at huv; exact hadj huv
    rw [if_neg h1, if_neg h2]; exact hinv.zero u v huv
  · intro v
    rw [hin v, hinv.inOk v]; unfold inSpec
    rw [colSum_setO I1 hsym h v, hinv.agree src snk, I1_flip, I1_flip]
  · intro v
    rw [hout v, hinv.outOk v, outSpec_eq hsym hagree, outSpec_eq hsym hinv.agree, colSum_setO I2 hsym h v,
      hinv.agree src snk, I2_flip, I2_flip]
    ring
  · intro hc
    rw [hchk] at hc
    rw [hfull, fullNow_iff_all hsym hG.loopless hrange hagree]
    by_cases h0 : state = 0
    · -- the edge src–snk is unoriented now
      rw [if_pos h0]
      refine iff_of_false Bool.false_ne_true fun hall => hall src snk (Nat.pos_of_ne_zero hadj) ?_
      rw [hst, if_pos ⟨rfl, rfl⟩, h0]
    · rw [if_neg h0] at hc ⊢
      by_cases hold0 : o.st src snk = 0
      · rw [if_pos hold0] at hc; cases hc
      · rw [if_neg hold0] at hc
        rw [hinv.flag hc, fullNow_iff_all hsym hG.loopless hinv.range hinv.agree]
        -- an oriented edge was re-oriented: "no edge unoriented" is unchanged
        have key : ∀ u v, o'.st u v ≠ 0 ↔ o.st u v ≠ 0 := by
          intro u v; rw [hst u v]
          split_ifs with h1 h2
          · rw [h1.1, h1.2]; exact iff_of_true h0 hold0
          · rw [h2.1, h2.2, hinv.agree src snk, flip_ne_zero _ hs, flip_ne_zero _ (hinv.range src snk)]
            exact iff_of_true h0 hold0
          · rfl
        simp only [key]

theorem checkFullness_inv {G : Graph n} {o : Orient n} (hinv : Inv G o) : Inv G (checkFullness G o).1 := by
  refine ⟨hinv.range, hinv.zero, hinv.agree, hinv.inOk, hinv.outOk, ?_⟩
  intro _
  simp only [checkFullness]
  exact Iff.rfl

theorem new_go_inv (G : Graph n) (hG : G.WF) :
    ∀ (pairs : List (Nat × Nat)) (o o' : Orient n), Inv G o → new.go G pairs o = .ok o' → Inv G o' := by
  intro pairs o
  fun_induction new.go G pairs o with
  | case1 o => intro o' hinv h; cases h; exact checkFullness_inv hinv
  | case2 | case3 | case5 | case6 => exact fun _ _ h => nomatch h
  | case4 =>
    -- the pair was accepted: `setO` returned the state the loop goes on with
    rename_i hset ih
    exact fun o' hinv h => ih o' (setO_inv hG hinv (by omega) hset) h

theorem oapply_inv (G : Graph n) (hG : G.WF) (o : Orient n) (hinv : Inv G o) (op : OOp) : Inv G (oapply G o op) := by
  fun_cases oapply G o op
  case case1 hs _ hset => exact setO_inv hG hinv hs hset
  case case5 => exact checkFullness_inv hinv
  case case6 =>
    simp only [needFull]
    split
    · exact hinv
    · exact checkFullness_inv hinv
  -- every other exit returns `o`
  all_goals exact hinv

end Orient
end CF
