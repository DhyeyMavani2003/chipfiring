import ChipFiring.Model.Comb
import Mathlib.LinearAlgebra.Matrix.Determinant.Basic
import Mathlib.Data.List.OfFn
/-
  The model's determinant (`detRows`: Laplace expansion along the first row of a list of rows) is
  Mathlib's `Matrix.det` of the matrix the rows list.
-/
open Finset
namespace CF

/-- dropping the j-th entry, as `detRows` spells it -/
theorem filterMap_range_eq_eraseIdx (row : List Int) (j : Nat) :
    (List.range row.length).filterMap (fun k => if k = j then none else row[k]?) = row.eraseIdx j := by
  induction row generalizing j with
  | nil => simp
  | cons a as ih =>
    rw [List.length_cons, List.range_succ_eq_map, List.filterMap_cons, List.filterMap_map]
    cases j with
    | zero =>
      refine Eq.trans ?_ ((ih as.length).trans (List.eraseIdx_of_length_le (le_refl _)))
      simp only [if_true]
      exact List.filterMap_congr fun k hk => by simp [(List.mem_range.mp hk).ne]
    | succ j => simpa [Function.comp_def] using ih j

theorem eraseIdx_ofFn {m : Nat} (g : Fin (m + 1) → Int) (j : Fin (m + 1)) :
    (List.ofFn g).eraseIdx j.1 = List.ofFn (fun k : Fin m => g (j.succAbove k)) := by
  apply List.ext_getElem
  · simp [List.length_eraseIdx, j.2]
  · intro k h1 h2
    have hk : k < m := by simpa using h2
    rw [List.getElem_eraseIdx, List.getElem_ofFn]
    by_cases h : k < j.1
    · simp [h, Fin.succAbove, Fin.lt_def]
    · simp [h, Fin.succAbove, Fin.lt_def]

theorem detRows_eq_det : ∀ (m f : Nat) (A : Matrix (Fin m) (Fin m) Int), m ≤ f →
    detRows f (List.ofFn fun i => List.ofFn fun j => A i j) = A.det := by
  intro m
  induction m with
  | zero =>
    intro f A _
    rw [List.ofFn_zero, Matrix.det_fin_zero]
    cases f <;> rfl
  | succ m ih =>
    intro f A hf
    obtain ⟨f', rfl⟩ : ∃ f', f = f' + 1 := ⟨f - 1, by omega⟩
    rw [List.ofFn_succ, Matrix.det_succ_row_zero]
    simp only [detRows]
    rw [List.length_ofFn]
    have hsum : ∀ g : Nat → Int, ((List.range (m + 1)).map g).sum = ∑ j : Fin (m + 1), g j.1 := fun g => by
      rw [Fin.sum_univ_eq_sum_range g (m + 1)]
      rfl
    rw [hsum]
    apply Finset.sum_congr rfl
    intro j _
    have hsign : (if j.1 % 2 = 0 then (1:Int) else -1) = (-1) ^ (j : ℕ) := by
      simp only [neg_one_pow_eq_ite, Nat.even_iff]
    have hget : (List.ofFn fun j => A 0 j).getD j.1 0 = A 0 j := by
      rw [List.getD_eq_getElem?_getD, List.getElem?_ofFn]
      simp [j.2]
    have hminor : ((List.ofFn fun i : Fin m => List.ofFn fun j => A i.succ j).map fun row =>
          (List.range row.length).filterMap fun k => if k = j.1 then none else row[k]?)
        = List.ofFn fun i : Fin m => List.ofFn fun k : Fin m => (A.submatrix Fin.succ j.succAbove) i k := by
      rw [List.map_ofFn]
      congr 1
      funext i
      simp only [Function.comp]
      rw [filterMap_range_eq_eraseIdx, eraseIdx_ofFn]
      rfl
    rw [hsign, hget, hminor, ih f' _ (by omega)]

end CF
