import ChipFiring.Theory.Config
import ChipFiring.Model.Comb
import ChipFiring.Theory.Complete
import Mathlib.Data.List.Sort
/-
  Superstables of K_n are the parking functions shifted down by one.  The sorted test of
  `is_parking_function` is a counting condition (`CountCond`: at least i entries are ≤ i); on K_n the
  sets that can fire are decided by how many vertices hold fewer than i chips, so q-reduced is the
  same condition on the chip counts.
-/
open Finset
namespace CF
variable {n : Nat}

theorem insertSorted_eq (x : Int) (l : List Int) : insertSorted x l = l.orderedInsert (· ≤ ·) x := by
  fun_induction insertSorted x l <;> simp [List.orderedInsert_cons, *]

theorem sortInts_eq (l : List Int) : sortInts l = l.insertionSort (· ≤ ·) := by
  fun_induction sortInts l <;> simp [insertSorted_eq, *]

/-- counting condition with offset j: for every i in j+1 .. j+len, at least i − j entries are ≤ i -/
def CountCond (l : List Int) (j : Nat) : Prop :=
  ∀ i : Nat, j + 1 ≤ i → i ≤ j + l.length → i - j ≤ (l.filter fun x => decide (x ≤ (i : Int))).length

theorem countCond_cons {x : Int} {xs : List Int} {j : Nat} (hx : x ≤ (j : Int) + 1) :
    CountCond (x :: xs) j ↔ CountCond xs (j + 1) := by
  refine forall_congr' fun i => ?_
  by_cases hi : j + 1 ≤ i
  · rw [List.filter_cons, if_pos (decide_eq_true (by omega)), List.length_cons, List.length_cons]
    omega
  · omega

theorem CountCond.head_le {x : Int} {xs : List Int} {j : Nat} (hs : ∀ y ∈ xs, x ≤ y)
    (h : CountCond (x :: xs) j) : x ≤ (j : Int) + 1 := by
  by_contra hlt
  have h1 := h (j + 1) le_rfl (by rw [List.length_cons]; omega)
  rw [List.filter_eq_nil_iff.mpr fun y hy => ?_] at h1
  · simp at h1
  · rw [decide_eq_true_eq]
    rcases List.mem_cons.mp hy with rfl | hy
    · omega
    · have := hs y hy
      omega

theorem parkCheck_iff (l : List Int) (hs : l.Pairwise (· ≤ ·)) (j : Nat) :
    parkCheck l j = true ↔ CountCond l j := by
  fun_induction parkCheck l j with
  | case1 j => exact iff_of_true rfl fun i h1 h2 => absurd (h1.trans h2) (Nat.not_succ_le_self j)
  | case2 x xs j ih =>
    rw [List.pairwise_cons] at hs
    simp only [Bool.and_eq_true, decide_eq_true_eq, ih hs.2]
    exact ⟨fun ⟨hx, h⟩ => (countCond_cons hx).mpr h,
      fun h => have hx := h.head_le hs.1; ⟨hx, (countCond_cons hx).mp h⟩⟩

theorem countCond_perm {l l' : List Int} (h : l.Perm l') (j : Nat) : CountCond l j ↔ CountCond l' j :=
  forall_congr' fun i => by rw [h.length_eq, (h.filter _).length_eq]

theorem CountCond.le_length {s : List Int} (hc : CountCond s 0) : ∀ x ∈ s, x ≤ (s.length : Int) := by
  intro x hx
  have hlen : 1 ≤ s.length := List.length_pos_iff.mpr (List.ne_nil_of_mem hx)
  have := hc s.length (by omega) (by omega)
  have hle : (s.filter fun x => decide (x ≤ (s.length : Int))).length ≤ s.length := List.length_filter_le _ _
  have hall := List.length_filter_eq_length_iff.mp (Nat.le_antisymm hle (by omega))
  simpa using hall x hx

theorem isParkingFunction_iff (seq : List Int) :
    isParkingFunction seq none = true ↔ (∀ x ∈ seq, 1 ≤ x) ∧ CountCond seq 0 := by
  have hcc : parkCheck (sortInts seq) 0 = true ↔ CountCond seq 0 := by
    rw [sortInts_eq, parkCheck_iff _ (List.pairwise_insertionSort _ _) 0, countCond_perm (List.perm_insertionSort _ _) 0]
  cases seq with
  | nil => simp [isParkingFunction, CountCond]
  | cons a t =>
    -- the upper range test is implied by the counting condition
    have hrange : (∀ x ∈ a :: t, 1 ≤ x ∧ x ≤ ((a :: t).length : Int)) ∧ CountCond (a :: t) 0 ↔
        (∀ x ∈ a :: t, 1 ≤ x) ∧ CountCond (a :: t) 0 :=
      ⟨fun h => ⟨fun x hx => (h.1 x hx).1, h.2⟩, fun h => ⟨fun x hx => ⟨h.1 x hx, h.2.le_length x hx⟩, h.2⟩⟩
    rw [← hrange, ← hcc]
    -- what is left is the model's cascade for a non-empty list: range test, then the sorted test
    simp [isParkingFunction]

theorem complete_qreduced_iff (G : Graph n) (hK : IsComplete G) (q : Fin n) (D : Fin n → Int) :
    QReduced G q D ↔ (∀ v, v ≠ q → 0 ≤ D v) ∧
      ∀ i : Nat, 1 ≤ i → i + 1 ≤ n → i ≤ (univ.filter fun v => v ≠ q ∧ D v < (i : Int)).card := by
  have : Nonempty (Fin n) := ⟨q⟩
  refine and_congr_right fun _ => ⟨fun hno i h1 h2 => ?_, ?_⟩
  · -- otherwise the vertices holding at least i chips can fire together
    by_contra hlt
    let S : Fin n → Bool := fun v => decide (v ≠ q ∧ (i : Int) ≤ D v)
    have hU : (univ.filter fun v => ¬ S v = true)
        ⊆ insert q (univ.filter fun v => v ≠ q ∧ D v < (i : Int)) := fun v hv => by
      by_cases hvq : v = q
      · simp [hvq]
      · simpa [S, hvq] using hv
    have hUc := (card_le_card hU).trans (card_insert_le _ _)
    have hTU := card_mem_add_card_not_mem S
    refine hno S ⟨?_, by simp [S], fun v hv => ?_⟩
    · obtain ⟨v, hv⟩ := card_pos.mp (by omega : 0 < (univ.filter fun v => S v = true).card)
      exact ⟨v, (mem_filter.mp hv).2⟩
    · rw [outdeg_complete G hK S v hv]
      have : v ≠ q ∧ (i : Int) ≤ D v := by simpa [S] using hv
      omega
  · -- a legal set S has every vertex holding fewer than |Sᶜ| chips in Sᶜ ∖ {q}
    rintro hcnt S ⟨⟨v0, hv0⟩, hSq, hleg⟩
    let U := univ.filter fun v => ¬ S v = true
    have hTU : (univ.filter fun v => S v = true).card + U.card = n := card_mem_add_card_not_mem S
    have hT1 : 0 < (univ.filter fun v => S v = true).card := card_pos.mpr ⟨v0, by simp [hv0]⟩
    have hqU : q ∈ U := by simp [U, hSq]
    have hU1 : 0 < U.card := card_pos.mpr ⟨q, hqU⟩
    have hsub : (univ.filter fun v => v ≠ q ∧ D v < (U.card : Int)) ⊆ U.erase q := fun v hv => by
      obtain ⟨hvq, hlt⟩ := (mem_filter.mp hv).2
      refine mem_erase.mpr ⟨hvq, mem_filter.mpr ⟨mem_univ _, fun hS => ?_⟩⟩
      have : (U.card : Int) ≤ D v := outdeg_complete G hK S v hS ▸ hleg v hS
      omega
    have := (hcnt U.card hU1 (by omega)).trans (card_le_card hsub)
    rw [card_erase_of_mem hqU] at this
    omega

theorem card_filter_vtilde (q : Fin n) (p : Fin n → Prop) [DecidablePred p] :
    (univ.filter fun v => v ≠ q ∧ p v).card = ((vtilde q).filter fun v => decide (p v)).length := by
  have hnd : ((vtilde q).filter fun v => decide (p v)).Nodup := (vtilde_nodup q).filter _
  rw [← List.toFinset_card_of_nodup hnd]
  congr 1
  ext v
  simp only [mem_filter, mem_univ, true_and, List.mem_toFinset, List.mem_filter, mem_vtilde, decide_eq_true_eq]

/-- C10: the superstables of K_n are the parking functions (of length n − 1) shifted down by one -/
theorem complete_superstable_iff_parking (G : Graph n) (hK : IsComplete G) (q : Fin n) (D : Fin n → Int) :
    isSuperstable G q D = true ↔ isParkingFunction ((vtilde q).map fun v => D v + 1) none = true := by
  rw [C10.superstable_iff, complete_qreduced_iff G hK, isParkingFunction_iff]
  have hlen := vtilde_length q
  have hcount : ∀ i : Nat,
      (((vtilde q).map fun v => D v + 1).filter fun x => decide (x ≤ (i : Int))).length
        = (univ.filter fun v => v ≠ q ∧ D v < (i : Int)).card := fun i => by
    rw [card_filter_vtilde q (fun v => D v < (i : Int)), List.filter_map, List.length_map]
    exact congrArg List.length (List.filter_congr fun v _ => by simp [Function.comp, Int.add_one_le_iff])
  refine and_congr ?_ (forall_congr' fun i => ?_)
  · simp only [List.forall_mem_map, mem_vtilde]
    exact forall₂_congr fun v _ => by omega
  · rw [hcount, List.length_map]
    omega

end CF
