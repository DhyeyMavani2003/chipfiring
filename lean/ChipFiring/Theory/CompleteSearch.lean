import ChipFiring.Theory.Termination
import ChipFiring.Theory.Complete
import ChipFiring.Theory.GonSearch
/-
  On the complete graph every game of the gonality search is over within `deg P + 1` firing
  rounds (potential: the chips off the sink), so the search returns, and it returns n − 1.
-/
open Finset
namespace CF
variable {n : Nat} {G : Graph n}

theorem complete_playGame_returns (hK : IsComplete G) (hG : G.WF) (hn : 0 < n) (fuel : Nat)
    (P : Fin n → Int) (hP : Eff P) (k : Nat) (hk : deg P ≤ k) (hfuel : k + 1 ≤ fuel) (v : Fin n) :
    ∃ b, playGame G fuel P v = some b := by
  unfold playGame
  refine winnableOpt_returns G hG hn fuel _ k hfuel fun q hq => ?_
  -- only `v` can be in debt, so it is the sink if anything is; on K_n "1 off the sink" is a supersolution
  have hb : IsSupersolution G q fun w => if w = q then 0 else 1 :=
    ⟨fun w => by split <;> omega, by simp, fun w hw => (complete_fire_others hK hw).ge⟩
  refine ⟨debt_only_at_sink (u := v) (fun w hw => by simpa [hw] using hP w) hq, _, hb, ?_⟩
  calc ∑ w, (if w = q then (0:Int) else 1) * (P w - if w = v then 1 else 0)
      ≤ ∑ w, P w := Finset.sum_le_sum fun w _ => by
        have := hP w
        split_ifs <;> omega
    _ ≤ k := hk

theorem complete_search (hK : IsComplete G) (hG : G.WF) (hn : 2 ≤ n) (fuel : Nat) (hf : n + 1 ≤ fuel)
    (fs : Bool) : (computeGonality G fuel n fs).map (·.1) = some ((n - 1 : Nat) : Int) := by
  have hg := good_of_connected G hG hK.connected (by omega)
  obtain ⟨⟨g, l⟩, hr⟩ := gonLoop_returns G fuel (if fs then 5 else 1) _ (fun P hP hd v =>
    complete_playGame_returns hK hG (by omega) fuel P hP n (by simp at hd; omega) hf v) (n : Int).toNat 1 rfl
  have hgon := complete_gonality G hK hn
  rw [computeGonality, hr]
  rcases computeGonality_exact G hg fuel n fs g l hr with ⟨-, -, hno⟩ | ⟨k, rfl, -, -, hk, -⟩
  · obtain ⟨⟨D, hD, hd, hw⟩, -⟩ := hgon
    exact absurd hw (hno D hD (by rw [hd]; omega))
  · rw [gonality_unique G _ _ hk hgon]; rfl

end CF
