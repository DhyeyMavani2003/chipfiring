import ChipFiring.Theory.LinEq
/-
  T2/T3: for a q-reduced divisor the verdict is the sign at q, and the q-reduced representative
  of a class is unique.
-/
open Finset

namespace CF
variable {n : Nat} (G : Graph n)

/-- at a vertex where `s` is largest, firing `s` costs at least the edges leaving the top level set -/
theorem outdeg_top_le (s : Fin n → Int) (v : Fin n) (hmax : ∀ w, s w ≤ s v) :
    outdeg G (fun w => decide (s w = s v)) v ≤ ∑ w, (G.adj v w : Int) * (s v - s w) := by
  refine Finset.sum_le_sum fun w _ => ?_
  by_cases hw : s w = s v
  · simp [hw]
  · simp only [hw, decide_false, Bool.false_eq_true, if_false]
    exact le_mul_of_one_le_right (by positivity) (by have := lt_of_le_of_ne (hmax w) hw; omega)

/-- a script that leaves no debt off q on a divisor without legal sets is largest at q: otherwise
    its top level set would be legal -/
theorem script_max_at_q (q : Fin n) (D s : Fin n → Int)
    (hE : ∀ v, v ≠ q → 0 ≤ applyScript G D s v) (hno : ∀ S, ¬ Legal G q D S) :
    ∀ w, s w ≤ s q := by
  obtain ⟨vmax, -, hmax⟩ := Finset.exists_max_image (Finset.univ : Finset (Fin n)) s ⟨q, mem_univ q⟩
  have hmax' : ∀ w, s w ≤ s vmax := fun w => hmax w (mem_univ w)
  by_contra hq
  have hq : s q ≠ s vmax := fun e => hq (e ▸ hmax')
  refine hno (fun w => decide (s w = s vmax)) ⟨⟨vmax, by simp⟩, by simp [hq], fun v hv => ?_⟩
  have hv : s v = s vmax := by simpa using hv
  have h1 := outdeg_top_le G s v (hv ▸ hmax')
  have h2 := hE v (by rintro rfl; exact hq hv)
  simp only [applyScript] at h2
  rw [hv] at h1 h2
  omega

theorem qreduced_verdict (q : Fin n) (D : Fin n → Int) (h : QReduced G q D) :
    Winnable G D ↔ 0 ≤ D q := by
  refine ⟨?_, fun hq => ⟨D, LinEq.refl G D, fun v => if hv : v = q then hv ▸ hq else h.1 v hv⟩⟩
  rintro ⟨E, ⟨s, rfl⟩, hE⟩
  have hmax := script_max_at_q G q D s (fun v _ => hE v) h.2
  have hsum : 0 ≤ ∑ v, (G.adj q v : Int) * (s q - s v) :=
    Finset.sum_nonneg fun v _ => mul_nonneg (by positivity) (sub_nonneg.mpr (hmax v))
  have := hE q
  simp only [applyScript] at this
  omega

theorem qreduced_unique (q : Fin n) (D D' : Fin n → Int) (h : QReduced G q D) (h' : QReduced G q D')
    (he : LinEq G D D') : D = D' := by
  obtain ⟨s, rfl⟩ := he
  have h1 := script_max_at_q G q D s h'.1 h.2
  have h2 := script_max_at_q G q (applyScript G D s) (fun v => - s v)
    (by rw [applyScript_neg_cancel]; exact h.1) h'.2
  have hc : ∀ v, s v = s q := fun v => le_antisymm (h1 v) (by have := h2 v; linarith)
  exact (applyScript_const G D s (s q) hc).symm

end CF
