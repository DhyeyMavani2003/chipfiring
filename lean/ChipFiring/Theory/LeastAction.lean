import ChipFiring.Theory.Moves
import ChipFiring.Theory.Enum
/-
  T8: least action.  Any run that only borrows at indebted vertices is dominated, vertex by
  vertex, by every non-negative script that clears the debt.  The greedy solver as such a run
  (`greedyGo_spec`, `greedy_run`).
-/
open Finset

namespace CF
variable {n : Nat} (G : Graph n)

/-- a run of borrowing moves, each at a vertex that is in debt when it borrows -/
def ValidRun : (Fin n → Int) → List (Fin n) → Prop
  | _, [] => True
  | D, u :: l => D u < 0 ∧ ValidRun (borrow G D u) l

def negCount (l : List (Fin n)) : Fin n → Int := fun v => - (l.count v : Int)

theorem foldl_borrow_eq (hs : ∀ v w, G.adj v w = G.adj w v) (l : List (Fin n)) (D : Fin n → Int) :
    l.foldl (borrow G) D = applyScript G D (negCount l) := by
  have h : l.foldl (borrow G) D = ((l.map chipAt).map fun s => - s).foldl (applyScript G) D := by
    rw [List.map_map, List.foldl_map]
    exact congrArg (fun f => l.foldl f D) (funext₂ fun D v => borrow_eq G hs D v)
  rw [h, foldl_applyScript, ← List.sum_neg, sum_map_chipAt]
  rfl

/-- a run of borrowing moves at active, indebted vertices -/
def ValidRunOn (A : Fin n → Prop) : (Fin n → Int) → List (Fin n) → Prop
  | _, [] => True
  | D, u :: l => A u ∧ D u < 0 ∧ ValidRunOn A (borrow G D u) l

theorem validRunOn_append_iff (A : Fin n → Prop) (D : Fin n → Int) (l : List (Fin n)) (u : Fin n) :
    ValidRunOn G A D (l ++ [u]) ↔ ValidRunOn G A D l ∧ A u ∧ l.foldl (borrow G) D u < 0 := by
  induction l generalizing D with
  | nil => simp [ValidRunOn]
  | cons a l ih => simp only [List.cons_append, ValidRunOn, ih, List.foldl_cons, and_assoc]

theorem least_action_on (hs : ∀ v w, G.adj v w = G.adj w v) (A : Fin n → Prop) (D0 σ : Fin n → Int)
    (hσ : ∀ v, 0 ≤ σ v) (hclear : ∀ v, A v → 0 ≤ applyScript G D0 (fun w => -σ w) v)
    (l : List (Fin n)) (hvalid : ValidRunOn G A D0 l) : ∀ v, (l.count v : Int) ≤ σ v := by
  induction l using List.reverseRecOn with
  | nil => intro v; simpa using hσ v
  | append_singleton l u ih =>
    obtain ⟨hl, hA, hdebt⟩ := (validRunOn_append_iff G A D0 l u).mp hvalid
    have ih := ih hl
    -- when `u` borrows, the run so far has applied `negCount l`; had `u` used up its share, it
    -- would hold at least what σ leaves it, which is no debt
    rw [foldl_borrow_eq G hs] at hdebt
    have hlt : (l.count u : Int) < σ u := by
      by_contra hcon
      have := applyScript_mono_at G D0 (fun w => -σ w) (negCount l) u
        (fun v => by have := ih v; simp only [negCount]; omega) (by have := ih u; simp only [negCount]; omega)
      have := hclear u hA
      omega
    intro v
    have := ih v
    rw [List.count_append, List.count_singleton]
    split
    · rename_i huv; rw [← beq_iff_eq.mp huv]; push_cast; omega
    · push_cast; omega

theorem ValidRun.on {D : Fin n → Int} {l : List (Fin n)} (h : ValidRun G D l) :
    ValidRunOn G (fun _ => True) D l := by
  induction l generalizing D with
  | nil => trivial
  | cons u l ih => exact ⟨trivial, h.1, ih h.2⟩

theorem least_action (hs : ∀ v w, G.adj v w = G.adj w v) (D0 σ : Fin n → Int) (hσ : ∀ v, 0 ≤ σ v)
    (hclear : ∀ v, 0 ≤ applyScript G D0 (fun w => -σ w) v)
    (l : List (Fin n)) (hvalid : ValidRun G D0 l) : ∀ v, (l.count v : Int) ≤ σ v :=
  least_action_on G hs _ D0 σ hσ (fun v _ => hclear v) l (ValidRun.on G hvalid)

theorem validRunOn_length_le (hs : ∀ v w, G.adj v w = G.adj w v) (A : Fin n → Prop) (D0 σ : Fin n → Int)
    (hσ : ∀ v, 0 ≤ σ v) (hclear : ∀ v, A v → 0 ≤ applyScript G D0 (fun w => -σ w) v)
    (l : List (Fin n)) (hvalid : ValidRunOn G A D0 l) : (l.length : Int) ≤ ∑ v, σ v := by
  rw [← sum_count]
  exact Finset.sum_le_sum fun w _ => least_action_on G hs A D0 σ hσ hclear l hvalid w

/-- least action with equality -/
theorem least_action_eq (hs : ∀ v w, G.adj v w = G.adj w v) (D σ : Fin n → Int) (hσ : ∀ v, 0 ≤ σ v)
    (hclear : Eff (applyScript G D (fun w => - σ w))) (l : List (Fin n)) (hl : ValidRun G D l)
    (hlen : ∑ v, σ v ≤ l.length) : (fun w => - σ w) = negCount l := by
  have hle := least_action G hs D σ hσ hclear l hl
  have hsum : ∑ v, (l.count v : Int) = ∑ v, σ v :=
    le_antisymm (Finset.sum_le_sum fun v _ => hle v) (by rw [sum_count]; exact hlen)
  funext v
  rw [negCount, (Finset.sum_eq_sum_iff_of_le fun v _ => hle v).mp hsum v (mem_univ v)]

theorem greedyGo_eff (vorder : List (Fin n)) (b : Nat) {D : Vec Int n} (s : Vec Int n)
    (h : effective D.get = true) : greedyGo G vorder b D s = (true, D, s) := by
  unfold greedyGo; rw [if_pos h]

theorem greedyGo_zero (vorder : List (Fin n)) {D : Vec Int n} (s : Vec Int n)
    (h : ¬ effective D.get = true) : greedyGo G vorder 0 D s = (false, D, s) := by
  unfold greedyGo; rw [if_neg h]

theorem greedyGo_succ (vorder : List (Fin n)) (b : Nat) {D : Vec Int n} (s : Vec Int n) {u : Fin n}
    (h : ¬ effective D.get = true) (hf : vorder.find? (fun v => decide (D.get v < 0)) = some u) :
    greedyGo G vorder (b + 1) D s =
      greedyGo G vorder b (mat (borrow G D.get u)) (mat fun w => if w = u then s.get w - 1 else s.get w) := by
  rw [greedyGo, if_neg h]; simp only [hf]

/-- what a run of the greedy loop with budget `b` from divisor `D` and script `s` left in `res`:
    `l` lists the vertices it borrowed at, in order -/
structure GreedyRun (D s : Fin n → Int) (b : Nat) (res : Bool × Vec Int n × Vec Int n) (l : List (Fin n)) :
    Prop where
  valid : ValidRun G D l
  final : res.2.1.get = l.foldl (borrow G) D
  script : res.2.2.get = fun v => s v - (l.count v : Int)
  length_le : l.length ≤ b
  eff : res.1 = true → Eff res.2.1.get
  capped : res.1 = false → l.length = b ∧ ¬ Eff res.2.1.get

theorem greedyGo_spec (vorder : List (Fin n)) (hcov : ∀ v, v ∈ vorder) (b : Nat) (D s : Vec Int n) :
    ∃ l, GreedyRun G D.get s.get b (greedyGo G vorder b D s) l := by
  induction b, D, s using greedyGo.induct G vorder with
  | case1 b D s he =>
    rw [greedyGo_eff G vorder b s he]
    exact ⟨[], trivial, rfl, by simp, Nat.zero_le _, fun _ => (effective_iff _).mp he, by simp⟩
  | case2 D s he =>
    rw [greedyGo_zero G vorder s he]
    exact ⟨[], trivial, rfl, by simp, le_refl _, by simp, fun _ => ⟨rfl, fun hE => he ((effective_iff _).mpr hE)⟩⟩
  | case3 D s he b hf =>
    -- some vertex is in debt, and the order lists it
    obtain ⟨v, hv⟩ : ∃ v, D.get v < 0 := by
      by_contra hc
      exact he ((effective_iff _).mpr fun v => not_lt.mp fun hv => hc ⟨v, hv⟩)
    simpa [hv] using List.find?_eq_none.mp hf v (hcov v)
  | case4 D s he b u hf ih =>
    obtain ⟨l, hl⟩ := ih
    have hu : D.get u < 0 := by simpa using List.find?_some hf
    rw [greedyGo_succ G vorder b s he hf]
    have h1 := hl.valid
    have h2 := hl.final
    have h3 := hl.script
    rw [get_mat] at h1 h2 h3
    refine ⟨u :: l, ⟨hu, h1⟩, h2, ?_, Nat.succ_le_succ hl.length_le, hl.eff, fun hfalse => ?_⟩
    · rw [h3]
      funext v
      by_cases hvu : v = u
      · subst hvu; simp; ring
      · have : u ≠ v := fun e => hvu e.symm
        simp [hvu, this]
    · obtain ⟨h1, h2⟩ := hl.capped hfalse
      exact ⟨by simp [h1], h2⟩

theorem greedy_run (vorder : List (Fin n)) (hcov : ∀ v, v ∈ vorder) (D : Fin n → Int) :
    ∃ l, GreedyRun G D (fun _ => 0) (10 * n) (greedy G vorder D) l := by
  simpa only [get_mat, greedy] using greedyGo_spec G vorder hcov (10 * n) (mat D) (mat fun _ => 0)

namespace GreedyRun
variable {G} {D s : Fin n → Int} {b : Nat} {res : Bool × Vec Int n × Vec Int n} {l : List (Fin n)}

/-- the divisor the run ends on is the starting one with the borrows applied as a script -/
theorem final_eq (h : GreedyRun G D s b res l) (hs : ∀ v w, G.adj v w = G.adj w v) :
    res.2.1.get = applyScript G D (negCount l) := by
  rw [h.final, foldl_borrow_eq G hs]

theorem script_eq (h : GreedyRun G D (fun _ => 0) b res l) : res.2.2.get = negCount l := by
  rw [h.script]; funext v; simp [negCount]

end GreedyRun

end CF
