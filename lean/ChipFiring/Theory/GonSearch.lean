import ChipFiring.Theory.RankTheory
/-
  The gonality search `compute_gonality`: what a returned value means, and that the search returns as
  soon as every single game does.
-/
open Finset
namespace CF
variable {n : Nat} (G : Graph n)

theorem playGame_exact (hg : Good G) (fuel : Nat) (P : Fin n → Int) (v : Fin n) (b : Bool)
    (h : playGame G fuel P v = some b) : b = true ↔ Winnable G (fun w => P w - chipAt v w) := by
  simpa [chipAt] using winnableOpt_exact G hg fuel _ b h

theorem strategyWorks_exact (hg : Good G) (fuel : Nat) (P : Fin n → Int) (b : Bool)
    (h : strategyWorks G fuel P = some b) : b = true ↔ RankGeOne G P := by
  obtain ⟨res, hl, rfl⟩ := Option.map_eq_some_iff.mp h
  have key := foldl_option_inv _ (fun _ => rfl)
    (fun res done => res = [] ↔ ∀ v ∈ done, Winnable G (fun w => P w - chipAt v w)) ?_
    (List.finRange n) [] [] res (by simp) hl
  · rw [List.isEmpty_iff, key]
    exact ⟨fun hall v => hall v (by simp), fun hr v _ => hr v⟩
  · intro l done v l' hI hs
    cases hp : playGame G fuel P v with
    | none => simp [hp] at hs
    | some b =>
      have hb := playGame_exact G hg fuel P v b hp
      simp only [List.forall_mem_append, List.forall_mem_singleton, ← hI, ← hb]
      cases b
      all_goals
        simp only [hp, Option.some.injEq] at hs
        subst hs
        simp

theorem zero_chips_lose (hg : Good G) (D : Fin n → Int) (hd : deg D < 1) : ¬ RankGeOne G D := fun hr =>
  not_winnable_of_deg_neg G hg.wf.symm (by rw [deg_sub, deg_chipAt]; omega) (hr ⟨0, hg.pos⟩)

/-- the scan appends winners to `acc`; it appends nothing only if the cap was reached already or no
    candidate wins -/
theorem firstWinning_spec (hg : Good G) (fuel cap : Nat) (cands acc res : List (Fin n → Int))
    (h : firstWinning G fuel cap cands acc = some res) :
    ∃ ws, res = acc ++ ws ∧ (∀ P ∈ ws, P ∈ cands ∧ RankGeOne G P) ∧
      (ws = [] → cap ≤ acc.length ∨ ∀ P ∈ cands, ¬ RankGeOne G P) := by
  fun_induction firstWinning G fuel cap cands acc with
  | case1 =>
    cases h
    exact ⟨[], by simp⟩
  | case2 P ps acc hge =>
    cases h
    exact ⟨[], by simp, by simp, fun _ => Or.inl hge⟩
  | case3 => nomatch h
  | case4 P ps acc _ hs ih =>
    obtain ⟨ws, e, h1, -⟩ := ih h
    exact ⟨P :: ws, by rw [e, List.append_assoc, List.singleton_append],
      List.forall_mem_cons.mpr ⟨⟨List.mem_cons_self, (strategyWorks_exact G hg fuel P _ hs).mp rfl⟩,
        fun Q hQ => ⟨List.mem_cons_of_mem _ (h1 Q hQ).1, (h1 Q hQ).2⟩⟩, fun he => by cases he⟩
  | case5 P ps acc _ hs ih =>
    obtain ⟨ws, e, h1, h2⟩ := ih h
    exact ⟨ws, e, fun Q hQ => ⟨List.mem_cons_of_mem _ (h1 Q hQ).1, (h1 Q hQ).2⟩, fun he =>
      (h2 he).imp_right fun hno => List.forall_mem_cons.mpr
        ⟨fun hc => Bool.noConfusion ((strategyWorks_exact G hg fuel P _ hs).mpr hc), hno⟩⟩

/-- started at N with every smaller positive degree known to have no strategy, it returns the least
    degree with a strategy (−1 when none up to the cut-off), with strategies of exactly that degree -/
theorem gonLoop_spec (hg : Good G) (fuel cap : Nat) (hcap : 0 < cap) (M f N : Nat) (g : Int)
    (l : List (Fin n → Int)) (hM : N + f = M) (hprev : ∀ D, Eff D → deg D < N → ¬ RankGeOne G D)
    (h : gonLoop G fuel cap f N = some (g, l)) :
    (g = -1 ∧ l = [] ∧ ∀ D, Eff D → deg D < M → ¬ RankGeOne G D) ∨
    (∃ k : Nat, g = k ∧ N ≤ k ∧ k < M ∧ IsGonality G k ∧ l ≠ [] ∧
      ∀ P ∈ l, Eff P ∧ deg P = k ∧ RankGeOne G P) := by
  fun_induction gonLoop G fuel cap f N with
  | case1 N =>
    cases h
    exact Or.inl ⟨rfl, rfl, by simpa [← hM] using hprev⟩
  | case2 => nomatch h
  | case3 f N hf ih =>
    obtain ⟨ws, e, -, h2⟩ := firstWinning_spec G hg fuel cap _ _ _ hf
    refine (ih (by omega) (fun D hE hd => ?_) h).imp_right fun ⟨k, a, b, c⟩ => ⟨k, a, by omega, c⟩
    by_cases hlt : deg D < N
    · exact hprev D hE hlt
    · exact ((h2 (by simpa using e.symm)).resolve_left (Nat.not_le.mpr hcap)) D
        (effDivs_complete N D hE (by push_cast at hd; omega))
  | case4 f N _ hne hf =>
    cases h
    obtain ⟨_, rfl, h1, -⟩ := firstWinning_spec G hg fuel cap _ _ _ hf
    have hres : ∀ Q ∈ l, Eff Q ∧ deg Q = N ∧ RankGeOne G Q := fun Q hQ =>
      ⟨(effDivs_sound N Q (h1 Q hQ).1).1, (effDivs_sound N Q (h1 Q hQ).1).2, (h1 Q hQ).2⟩
    obtain ⟨P, hP⟩ := List.exists_mem_of_ne_nil l hne
    exact Or.inr ⟨N, rfl, le_refl N, by omega, ⟨⟨P, hres P hP⟩, hprev⟩, hne, hres⟩

theorem computeGonality_exact (hg : Good G) (fuel : Nat) (maxGon : Int) (fs : Bool)
    (g : Int) (l : List (Fin n → Int)) (h : computeGonality G fuel maxGon fs = some (g, l)) :
    (g = -1 ∧ l = [] ∧ ∀ D, Eff D → deg D ≤ maxGon → ¬ RankGeOne G D) ∨
    (∃ k : Nat, g = k ∧ 1 ≤ k ∧ (k : Int) ≤ maxGon ∧ IsGonality G k ∧ l ≠ [] ∧
      ∀ P ∈ l, Eff P ∧ deg P = k ∧ RankGeOne G P) := by
  unfold computeGonality at h
  have hcap : 0 < (if fs then 5 else 1) := by split <;> omega
  rcases gonLoop_spec G hg fuel _ hcap _ maxGon.toNat 1 g l rfl
      (fun D _ hd => zero_chips_lose G hg D (by simpa using hd)) h with ⟨a, b, c⟩ | ⟨k, a, b, c, d⟩
  · refine Or.inl ⟨a, b, fun D hE hd => c D hE ?_⟩
    have h0 : 0 ≤ deg D := Finset.sum_nonneg fun v _ => hE v
    push_cast
    omega
  · exact Or.inr ⟨k, a, b, by omega, d⟩

theorem losingVertices_returns (fuel : Nat) (P : Fin n → Int)
    (h : ∀ v, ∃ b, playGame G fuel P v = some b) : ∃ l, losingVertices G fuel P = some l := by
  refine foldl_option_returns _ _ (fun l v _ => ?_) []
  obtain ⟨b, hb⟩ := h v
  cases b
  · exact ⟨l ++ [v], by simp only [hb]⟩
  · exact ⟨l, by simp only [hb]⟩

theorem firstWinning_returns (fuel cap : Nat) (cands : List (Fin n → Int))
    (h : ∀ P ∈ cands, ∀ v, ∃ b, playGame G fuel P v = some b) (acc : List (Fin n → Int)) :
    ∃ l, firstWinning G fuel cap cands acc = some l := by
  fun_induction firstWinning G fuel cap cands acc with
  | case1 | case2 => exact ⟨_, rfl⟩
  | case3 P ps acc _ hs =>
    obtain ⟨l, hl⟩ := losingVertices_returns G fuel P (h P List.mem_cons_self)
    simp [strategyWorks, hl] at hs
  | case4 P ps acc _ _ ih | case5 P ps acc _ _ ih => exact ih fun Q hQ => h Q (List.mem_cons_of_mem _ hQ)

theorem gonLoop_returns (fuel cap M : Nat)
    (h : ∀ P : Fin n → Int, Eff P → deg P < M → ∀ v, ∃ b, playGame G fuel P v = some b)
    (f N : Nat) (hM : N + f = M) : ∃ r, gonLoop G fuel cap f N = some r := by
  fun_induction gonLoop G fuel cap f N with
  | case1 | case4 => exact ⟨_, rfl⟩
  | case2 f N hfw =>
    obtain ⟨l, hl⟩ := firstWinning_returns G fuel cap (effDivs n N)
      (fun P hP => h P (effDivs_sound N P hP).1 (by rw [(effDivs_sound N P hP).2]; exact_mod_cast (by omega : N < M))) []
    rw [hfw] at hl
    cases hl
  | case3 f N _ ih => exact ih (by omega)

end CF
