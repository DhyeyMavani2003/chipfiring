import ChipFiring.Theory.RankTheory
/-
  The per-sink search `find_minimal_winning_strategies` / `enhanced_dhar_gonality_test`
  (CFGonalityDhar.py): the invariant of its loop over the candidate multisets, and exactness.
  `anySmallerWins`, `msStep` name the two inner loops of the model's `minimalStrategies`
  (`minimalStrategies_eq`).
-/
open Finset
open scoped List
namespace CF
variable {n : Nat}

def smStep (G : Graph n) (fuel : Nat) (q : Fin n) (base : Fin n → Int) (a : Option Bool) (t : List (Fin n)) : Option Bool :=
  match a with
  | none => none
  | some true => some true
  | some false => if t.isEmpty then some false else dharTestStrategy G fuel q base t

def anySmallerWins (G : Graph n) (fuel : Nat) (q : Fin n) (base : Fin n → Int) (s : List (Fin n)) : Option Bool :=
  ((List.range s.length).map fun j => s.eraseIdx j).foldl (smStep G fuel q base) (some false)

def msStep (G : Graph n) (fuel : Nat) (q : Fin n) (base : Fin n → Int)
    (acc : Option (List (List (Fin n)))) (s : List (Fin n)) : Option (List (List (Fin n))) :=
  match acc with
  | none => none
  | some found =>
    if found.any (fun m => isSubMultiset m s) then some found else
    match dharTestStrategy G fuel q base s with
    | none => none
    | some false => some found
    | some true =>
      match anySmallerWins G fuel q base s with
      | none => none
      | some true => some found
      | some false => some (found ++ [s])

def minimalStrategies' (G : Graph n) (fuel : Nat) (q : Fin n) (base : Fin n → Int) (vt : List (Fin n)) (maxChips : Nat) :
    Option (List (List (Fin n))) :=
  (List.range maxChips).foldl (fun acc i => (cwr vt (i + 1)).foldl (msStep G fuel q base) acc) (some [])

theorem minimalStrategies_eq (G : Graph n) (fuel : Nat) (q : Fin n) (base : Fin n → Int) (vt : List (Fin n)) (maxChips : Nat) :
   minimalStrategies G fuel q base vt maxChips = minimalStrategies' G fuel q base vt maxChips := rfl

variable (G : Graph n) (q : Fin n) (base : Fin n → Int)

/-- the strategy `s` (a multiset of vertices) survives a chip removed at q -/
def Wins (s : List (Fin n)) : Prop := Winnable G (fun w => base w + countVec s w - chipAt q w)

/-- wins, and no non-empty placement obtained by removing one chip still wins -/
def MinWin (s : List (Fin n)) : Prop :=
  Wins G q base s ∧ ∀ j, j < s.length → s.eraseIdx j ≠ [] → ¬ Wins G q base (s.eraseIdx j)

theorem isSubMultiset_iff (a b : List (Fin n)) : isSubMultiset a b = true ↔ a <+~ b := by
  simp [isSubMultiset, List.subperm_iff_count]

theorem wins_mono {a b : List (Fin n)} (hab : a <+~ b) (h : Wins G q base a) : Wins G q base b := by
  have hF : Eff (fun w => countVec b w - countVec a w) := fun w => by
    simp only [countVec]; have := hab.count_le w; omega
  have := Winnable.add_eff G h hF
  simpa [Wins, sub_add_eq_add_sub] using this

theorem wins_perm {a b : List (Fin n)} (hab : a ~ b) : Wins G q base a ↔ Wins G q base b :=
  ⟨wins_mono G q base hab.subperm, wins_mono G q base hab.symm.subperm⟩

theorem exists_eraseIdx_of_cons_subperm {α : Type} [DecidableEq α] {a : α} {m s : List α} (h : a :: m <+~ s) :
    ∃ j, j < s.length ∧ m <+~ s.eraseIdx j := by
  have hm : m <+~ s.erase a := by simpa using h.erase a
  obtain ⟨j, hj, rfl⟩ := List.getElem_of_mem (h.subset List.mem_cons_self)
  exact ⟨j, hj, hm.trans (List.erase_getElem hj).subperm⟩

theorem minWin_iff (s : List (Fin n)) : MinWin G q base s ↔
    Wins G q base s ∧ ∀ m, m ≠ [] → m <+~ s → m.length < s.length → ¬ Wins G q base m := by
  refine and_congr_right fun _ => ⟨fun h m hne hms hlt hw => ?_, fun h j hj hne => ?_⟩
  · obtain ⟨a, ha⟩ := hms.exists_of_length_lt hlt
    obtain ⟨j, hj, hmj⟩ := exists_eraseIdx_of_cons_subperm ha
    exact h j hj (fun e => hne (List.subperm_nil.mp (e ▸ hmj))) (wins_mono G q base hmj hw)
  · exact h _ hne (List.eraseIdx_sublist s j).subperm (by rw [List.length_eraseIdx_of_lt hj]; omega)

theorem minWin_perm {a b : List (Fin n)} (hab : a ~ b) : MinWin G q base a ↔ MinWin G q base b := by
  simp only [minWin_iff, wins_perm G q base hab, hab.subperm_left, hab.length_eq]

variable (fuel : Nat)

theorem dharTestStrategy_wins (hg : Good G) (t : List (Fin n)) (b : Bool)
    (h : dharTestStrategy G fuel q base t = some b) : b = true ↔ Wins G q base t := by
  simpa [Wins, chipAt] using winnableOpt_exact G hg fuel _ b h

theorem anySmallerWins_spec (hg : Good G) (s : List (Fin n)) (b : Bool)
    (h : anySmallerWins G fuel q base s = some b) :
    b = true ↔ ∃ j, j < s.length ∧ s.eraseIdx j ≠ [] ∧ Wins G q base (s.eraseIdx j) := by
  have key := foldl_option_inv _ (fun _ => rfl)
    (fun b done => b = true ↔ ∃ t ∈ done, t ≠ [] ∧ Wins G q base t) ?_ _ [] false b (by simp) h
  · -- the list folded over is that of the `s.eraseIdx j`, `j < s.length`
    simpa [and_assoc] using key
  · intro a done t a' hI hs
    simp only [List.mem_append, List.mem_singleton, or_and_right, exists_or, exists_eq_left, ← hI]
    cases a with
    | true => cases hs; simp
    | false =>
      simp only [smStep, List.isEmpty_iff] at hs
      split at hs
      · rename_i ht
        cases hs
        simp [ht]
      · rename_i ht
        rw [dharTestStrategy_wins G q base fuel hg t a' hs]
        simp [ht]

/-- everything found is a processed, non-empty, minimal winner; every processed non-empty minimal
    winner is represented -/
def MSInv (found P : List (List (Fin n))) : Prop :=
  (∀ t ∈ found, t ∈ P ∧ t ≠ [] ∧ MinWin G q base t) ∧
  (∀ s ∈ P, s ≠ [] → MinWin G q base s → ∃ t ∈ found, t ~ s)

theorem msStep_some (hg : Good G) (found : List (List (Fin n))) (s : List (Fin n)) (found' : List (List (Fin n)))
    (h : msStep G fuel q base (some found) s = some found') :
    found' = found ∧ ((∃ m ∈ found, m <+~ s) ∨ ¬ MinWin G q base s) ∨
      found' = found ++ [s] ∧ MinWin G q base s := by
  simp only [msStep] at h
  split at h
  · rename_i hany
    cases h
    obtain ⟨m, hm, hsub⟩ := List.any_eq_true.mp hany
    exact Or.inl ⟨rfl, Or.inl ⟨m, hm, (isSubMultiset_iff m s).mp hsub⟩⟩
  · split at h
    · cases h
    · rename_i hd
      cases h
      exact Or.inl ⟨rfl, Or.inr fun hm =>
        Bool.noConfusion ((dharTestStrategy_wins G q base fuel hg s false hd).mpr hm.1)⟩
    · rename_i hd
      have hw := (dharTestStrategy_wins G q base fuel hg s true hd).mp rfl
      split at h
      · cases h
      · rename_i ha
        cases h
        obtain ⟨j, hj, hne, hwj⟩ := (anySmallerWins_spec G q base fuel hg s true ha).mp rfl
        exact Or.inl ⟨rfl, Or.inr fun hm => hm.2 j hj hne hwj⟩
      · rename_i ha
        cases h
        exact Or.inr ⟨rfl, hw, fun j hj hne hwj =>
          Bool.noConfusion ((anySmallerWins_spec G q base fuel hg s false ha).mpr ⟨j, hj, hne, hwj⟩)⟩

theorem msStep_spec (hg : Good G) (found P : List (List (Fin n))) (s : List (Fin n)) (hs : s ≠ [])
    (hinv : MSInv G q base found P) (found' : List (List (Fin n)))
    (h : msStep G fuel q base (some found) s = some found') : MSInv G q base found' (P ++ [s]) := by
  obtain ⟨h1, h2⟩ := hinv
  have hold : ∀ t ∈ found, t ∈ P ++ [s] ∧ t ≠ [] ∧ MinWin G q base t := fun t ht =>
    ⟨List.mem_append_left _ (h1 t ht).1, (h1 t ht).2⟩
  rcases msStep_some G q base fuel hg found s found' h with ⟨rfl, hcase⟩ | ⟨rfl, hmw⟩
  · simp only [MSInv, List.forall_mem_append, List.forall_mem_singleton]
    refine ⟨hold, h2, fun _ hmin => ?_⟩
    rcases hcase with ⟨m, hm, hsub⟩ | hno
    · -- a found `m ⊆ s`: the same multiset, or `s` is not minimal
      obtain ⟨-, hmne, hmw⟩ := h1 m hm
      rcases Nat.lt_or_ge m.length s.length with hlt | hge
      · exact absurd hmw.1 (((minWin_iff G q base s).mp hmin).2 m hmne hsub hlt)
      · exact ⟨m, hm, hsub.perm_of_length_le hge⟩
    · exact absurd hmin hno
  · -- `s` joins `found`: a processed minimal winner, which represents itself
    have hsP : s ∈ P ++ [s] := List.mem_append_right _ (List.mem_singleton_self s)
    simp only [MSInv, List.forall_mem_append, List.forall_mem_singleton]
    exact ⟨⟨hold, hsP, hs, hmw⟩,
      fun s' hs' hne hm' => (h2 s' hs' hne hm').imp fun t ht => ⟨List.mem_append_left _ ht.1, ht.2⟩,
      fun _ _ => ⟨s, List.mem_append_right _ (List.mem_singleton_self s), List.Perm.refl _⟩⟩

theorem msStep_none (s : List (Fin n)) : msStep G fuel q base none s = none := rfl

/-- everything processed up to (not including) round I -/
def processed (vt : List (Fin n)) (I : Nat) : List (List (Fin n)) :=
  (List.range I).flatMap fun i => cwr vt (i + 1)

theorem outer_none (vt : List (Fin n)) (l : List Nat) :
    l.foldl (fun acc i => (cwr vt (i + 1)).foldl (msStep G fuel q base) acc) none = none :=
  List.foldl_fixed' (fun i => List.foldl_fixed' (msStep_none G q base fuel) (cwr vt (i + 1))) l

theorem mem_processed {vt : List (Fin n)} {M : Nat} {c : List (Fin n)} :
    c ∈ processed vt M ↔ ∃ k, 1 ≤ k ∧ k ≤ M ∧ c ∈ cwr vt k := by
  simp only [processed, List.mem_flatMap, List.mem_range]
  exact ⟨fun ⟨i, hi, hc⟩ => ⟨i + 1, by omega, by omega, hc⟩,
    fun ⟨k, h1, h2, hc⟩ => ⟨k - 1, by omega, by rwa [Nat.sub_add_cancel h1]⟩⟩

theorem processed_sound (vt : List (Fin n)) (M : Nat) (c : List (Fin n)) (hc : c ∈ processed vt M) :
    1 ≤ c.length ∧ c.length ≤ M ∧ ∀ x ∈ c, x ∈ vt := by
  obtain ⟨k, h1, h2, hc⟩ := mem_processed.mp hc
  obtain ⟨hl, hx⟩ := cwr_sound vt k c hc
  exact ⟨hl ▸ h1, hl ▸ h2, hx⟩

theorem minimalStrategies_spec (hg : Good G) (vt : List (Fin n)) (M : Nat) (found : List (List (Fin n)))
    (h : minimalStrategies G fuel q base vt M = some found) : MSInv G q base found (processed vt M) := by
  rw [minimalStrategies_eq, minimalStrategies', ← List.foldl_flatMap] at h
  have key := foldl_option_inv _ (fun _ => rfl)
    (fun found done => (∀ s ∈ done, s ≠ []) → MSInv G q base found done) ?_ (processed vt M) [] [] found
    (fun _ => ⟨by simp, by simp⟩) h
  · exact key fun s hs => List.ne_nil_of_length_pos (processed_sound vt M s (by simpa using hs)).1
  · intro f done s f' hI hs hne
    rw [List.forall_mem_append, List.forall_mem_singleton] at hne
    exact msStep_spec G q base fuel hg f done s hne.2 (hI hne.1) f' hs

theorem found_sound {vt : List (Fin n)} {M : Nat} {found : List (List (Fin n))}
    (hinv : MSInv G q base found (processed vt M)) {t : List (Fin n)} (ht : t ∈ found) :
    t ≠ [] ∧ t.length ≤ M ∧ (∀ x ∈ t, x ∈ vt) ∧ MinWin G q base t := by
  obtain ⟨hP, hne, hmw⟩ := hinv.1 t ht
  obtain ⟨-, b, c⟩ := processed_sound vt M t hP
  exact ⟨hne, b, c, hmw⟩

theorem minWin_found (vt : List (Fin n)) (M : Nat) (found : List (List (Fin n)))
    (hinv : MSInv G q base found (processed vt M))
    (s : List (Fin n)) (hs : ∀ x ∈ s, x ∈ vt) (hne : s ≠ []) (hM : s.length ≤ M) (hmw : MinWin G q base s) :
    ∃ t ∈ found, t ~ s := by
  obtain ⟨c, hc, hcs⟩ := cwr_complete_perm vt s hs
  obtain ⟨t, ht, htc⟩ := hinv.2 c (mem_processed.mpr ⟨s.length, List.length_pos_iff.mpr hne, hM, hc⟩)
    (fun e => hne (e ▸ hcs).symm.eq_nil) ((minWin_perm G q base hcs).mpr hmw)
  exact ⟨t, ht, htc.trans hcs⟩

theorem winner_found (vt : List (Fin n)) (M : Nat) (found : List (List (Fin n)))
    (hinv : MSInv G q base found (processed vt M)) (s : List (Fin n)) :
    (∀ x ∈ s, x ∈ vt) → s ≠ [] → s.length ≤ M → Wins G q base s → ∃ t ∈ found, t <+~ s := by
  induction hL : s.length using Nat.strong_induction_on generalizing s with
  | _ L ih =>
    subst hL
    intro hs hne hM hw
    by_cases hmw : MinWin G q base s
    · obtain ⟨t, ht, hts⟩ := minWin_found G q base vt M found hinv s hs hne hM hmw
      exact ⟨t, ht, hts.subperm⟩
    · rw [minWin_iff] at hmw
      push Not at hmw
      obtain ⟨m, hmne, hms, hlt, hwm⟩ := hmw hw
      obtain ⟨t, ht, htm⟩ := ih m.length (by omega) m rfl (fun x hx => hs x (hms.subset hx)) hmne (by omega) hwm
      exact ⟨t, ht, htm.trans hms⟩

/-- per-sink search (`enhanced_dhar_gonality_test`): the least number of chips of a non-empty
    placement over `vt` that survives a chip removed at q, with exactly the surviving placements of
    that size; `maxGon + 1` and no strategies when there is none within the cut-off -/
theorem enhancedDhar_exact (hg : Good G) (vt : List (Fin n)) (hnd : vt.Nodup) (maxGon k : Nat) (ms : List (List (Fin n)))
    (h : enhancedDhar G fuel q vt maxGon = some (k, ms)) :
    (ms = [] ∧ k = maxGon + 1 ∧
      ∀ s, (∀ x ∈ s, x ∈ vt) → s ≠ [] → s.length ≤ maxGon → ¬ Wins G q (fun _ => 0) s) ∨
    (1 ≤ k ∧ k ≤ maxGon ∧ ms ≠ [] ∧
      (∀ t ∈ ms, t.length = k ∧ (∀ x ∈ t, x ∈ vt) ∧ Wins G q (fun _ => 0) t) ∧
      (∀ s, (∀ x ∈ s, x ∈ vt) → s ≠ [] → s.length < k → ¬ Wins G q (fun _ => 0) s) ∧
      (∀ s, (∀ x ∈ s, x ∈ vt) → s.length = k → Wins G q (fun _ => 0) s → ∃ t ∈ ms, ∀ v, t.count v = s.count v)) := by
  unfold enhancedDhar at h
  cases hm : minimalStrategies G fuel q (fun _ => 0) vt maxGon with
  | none => simp [hm] at h
  | some found =>
    have hinv := minimalStrategies_spec G q (fun _ => 0) fuel hg vt maxGon found hm
    have hwf := winner_found G q _ vt maxGon found hinv
    rw [hm] at h
    cases found with
    | nil =>
      simp only [Option.some.injEq, Prod.mk.injEq] at h
      obtain ⟨rfl, rfl⟩ := h
      exact Or.inl ⟨rfl, rfl, fun s hs hne hM hw => by obtain ⟨t, ht, -⟩ := hwf s hs hne hM hw; simp at ht⟩
    | cons f0 fs =>
      simp only at h
      injection h with h; injection h with hk hms
      obtain ⟨hmin1, -, hmin3⟩ := foldl_min_spec List.length (f0 :: fs) (f0 :: fs).head!.length
      rw [hk] at hmin1 hmin3 hms
      subst hms
      obtain ⟨t0, ht0, ht0k⟩ : ∃ t0 ∈ f0 :: fs, t0.length = k := by
        rcases hmin3 with h3 | ⟨s, hs, h3⟩
        · exact ⟨f0, List.mem_cons_self, h3.symm⟩
        · exact ⟨s, hs, h3.symm⟩
      obtain ⟨hne0, hkM, -, -⟩ := found_sound G q _ hinv ht0
      have hk1 : 1 ≤ k := ht0k ▸ List.length_pos_iff.mpr hne0
      rw [ht0k] at hkM
      have hnosmall : ∀ s, (∀ x ∈ s, x ∈ vt) → s ≠ [] → s.length < k → ¬ Wins G q (fun _ => 0) s := by
        intro s hs hne hlt hw
        obtain ⟨t, ht, hts⟩ := hwf s hs hne (by omega) hw
        have := hmin1 t ht
        have := hts.length_le
        omega
      refine Or.inr ⟨hk1, hkM, List.ne_nil_of_mem (List.mem_filter.mpr ⟨ht0, by simpa using ht0k⟩), fun t ht => ?_, hnosmall,
        fun s hs hsk hw => ?_⟩
      · obtain ⟨ht1, ht2⟩ := List.mem_filter.mp ht
        obtain ⟨-, -, hvt, hmw⟩ := found_sound G q _ hinv ht1
        exact ⟨by simpa using ht2, hvt, hmw.1⟩
      · have hmw : MinWin G q (fun _ => 0) s := (minWin_iff G q _ s).mpr
          ⟨hw, fun m hmne hms hlt => hnosmall m (fun x hx => hs x (hms.subset hx)) hmne (by omega)⟩
        obtain ⟨t, ht, hts⟩ := minWin_found G q _ vt maxGon _ hinv s hs (by rintro rfl; simp at hsk; omega) (by omega) hmw
        exact ⟨t, List.mem_filter.mpr ⟨ht, by simpa [hts.length_eq] using hsk⟩, List.perm_iff_count.mp hts⟩

end CF
