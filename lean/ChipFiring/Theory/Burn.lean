import ChipFiring.Theory.Reduced
import ChipFiring.Model.Dhar
/-
  T4: Dhar's burn as coded (passes in index order with in-pass updates, `n` passes) computes the
  complement of the union of all legal sets; the unburnt set of the result is itself legal.
  Everything goes one burning step at a time (`burn_induction`).
-/
open Finset

namespace CF
variable {n : Nat} (G : Graph n)

theorem edgesTo_eq (B : Fin n → Bool) (v : Fin n) :
    edgesTo G B v = ∑ w, if B w then (G.adj v w : Int) else 0 := by
  unfold edgesTo; simp

/-- the state after `v` burns -/
def BState.fire (st : BState n) (v : Fin n) : BState n :=
  BState.mk' (fun w => decide (w = v) || st.B w) (fun w => if w = v then st.t else st.pos w) (st.t + 1)

@[simp] theorem BState.fire_B (st : BState n) (v w : Fin n) :
    (st.fire v).B w = (decide (w = v) || st.B w) := by simp [BState.fire]
@[simp] theorem BState.fire_pos (st : BState n) (v w : Fin n) :
    (st.fire v).pos w = if w = v then st.t else st.pos w := by simp [BState.fire]
@[simp] theorem BState.fire_t (st : BState n) (v : Fin n) : (st.fire v).t = st.t + 1 := rfl

theorem burnStep_eq (D : Fin n → Int) (st : BState n) (v : Fin n) :
    burnStep G D st v = if st.B v = false ∧ D v < edgesTo G st.B v then st.fire v else st := by
  unfold burnStep BState.fire
  congr 1
  simp

theorem foldl_burnStep_induction (D : Fin n → Int) {P : BState n → Prop}
    (step : ∀ st v, P st → st.B v = false → D v < edgesTo G st.B v → P (st.fire v))
    (l : List (Fin n)) (st : BState n) (h : P st) : P (l.foldl (burnStep G D) st) :=
  l.foldlRecOn (burnStep G D) h fun st' hst v _ => by
    rw [burnStep_eq]
    split
    · rename_i hb; exact step st' v hst hb.1 hb.2
    · exact hst

theorem burnIter_eq (D : Fin n → Int) (k : Nat) (st : BState n) :
    burnIter G D k st = (burnPass G D)^[k] st := by
  induction k generalizing st with
  | zero => rfl
  | succ k ih => exact ih _

theorem burn_induction (q : Fin n) (D : Fin n → Int) {P : BState n → Prop} (init : P (burnInit q))
    (step : ∀ st v, P st → st.B v = false → D v < edgesTo G st.B v → P (st.fire v)) :
    P (burn G q D) := by
  rw [burn, burnIter_eq]
  exact Function.Iterate.rec P init (foldl_burnStep_induction G D step _) n

theorem edgesTo_le_outdeg (S B : Fin n → Bool) (h : ∀ v, S v = true → B v = false) (v : Fin n) :
    edgesTo G B v ≤ outdeg G S v := by
  rw [edgesTo_eq]
  refine Finset.sum_le_sum fun w _ => ?_
  cases hS : S w
  · split <;> simp
  · simp [h w hS]

/-- a member of `S` never meets the burn condition while `S` is unburnt -/
theorem legal_subset_unburnt (q : Fin n) (D : Fin n → Int) (S : Fin n → Bool)
    (hS : Legal G q D S) : ∀ v, S v = true → (burn G q D).B v = false := by
  refine burn_induction G q D (P := fun st => ∀ v, S v = true → st.B v = false) ?_ ?_
  · intro v hv
    have : v ≠ q := by rintro rfl; simp [hS.2.1] at hv
    simp [burnInit, this]
  · intro st v h _ hburn w hw
    have hwv : w ≠ v := by
      rintro rfl
      have := hS.2.2 w hw
      have := edgesTo_le_outdeg G S st.B h w
      omega
    simp [hwv, h w hw]

/-- a pass that burns nothing new met the burn condition nowhere: a vertex that burns stays burnt -/
theorem foldl_fix_steps (D : Fin n → Int) (l : List (Fin n)) (st : BState n)
    (h : (l.foldl (burnStep G D) st).B = st.B) :
    ∀ u ∈ l, ¬ (st.B u = false ∧ D u < edgesTo G st.B u) := by
  induction l with
  | nil => simp
  | cons a l ih =>
    rw [List.foldl_cons, burnStep_eq] at h
    by_cases ha : st.B a = false ∧ D a < edgesTo G st.B a
    · rw [if_pos ha] at h
      have := foldl_burnStep_induction G D (P := fun st' => st'.B a = true) (fun _ _ h _ _ => by simp [h])
        l (st.fire a) (by simp)
      rw [h, ha.1] at this
      exact absurd this (by simp)
    · rw [if_neg ha] at h
      exact List.forall_mem_cons.mpr ⟨ha, ih h⟩

theorem outdeg_unburnt (st : BState n) (v : Fin n) : outdeg G (unburnt st) v = edgesTo G st.B v := by
  rw [edgesTo_eq]
  refine Finset.sum_congr rfl fun w _ => ?_
  cases hb : st.B w <;> simp [unburnt, hb]

theorem unburnt_legal (q : Fin n) (D : Fin n → Int) (st : BState n)
    (hfix : (burnPass G D st).B = st.B) (hq : st.B q = true) (hne : ∃ v, st.B v = false) :
    Legal G q D (unburnt st) := by
  refine ⟨?_, by simp [unburnt, hq], fun v hv => ?_⟩
  · obtain ⟨v, hv⟩ := hne; exact ⟨v, by simp [unburnt, hv]⟩
  · rw [outdeg_unburnt]
    have := foldl_fix_steps G D (List.finRange n) st hfix v (List.mem_finRange v)
    by_contra hlt
    exact this ⟨by simpa [unburnt] using hv, not_le.mp hlt⟩

/-! counting: `n` passes reach the fixpoint, because the clock `t` counts the burnt vertices -/

def Burnt.size (B : Fin n → Bool) : Nat := (Finset.univ.filter (fun v => B v = true)).card

open Burnt

theorem burn_t_eq_size (q : Fin n) (D : Fin n → Int) : (burn G q D).t = size (burn G q D).B := by
  refine burn_induction G q D (P := fun st => st.t = size st.B) ?_ fun st v h hv _ => ?_
  · simp [size, burnInit, Finset.filter_eq']
  · have : (univ.filter fun w => (st.fire v).B w = true) = insert v (univ.filter fun w => st.B w = true) := by
      ext w; simp
    rw [BState.fire_t, h, size, size, this, Finset.card_insert_of_notMem (by simp [hv])]

theorem burnPass_t (D : Fin n → Int) (st : BState n) :
    st.t ≤ (burnPass G D st).t ∧ ((burnPass G D st).t = st.t → burnPass G D st = st) :=
  foldl_burnStep_induction G D (P := fun st' => st.t ≤ st'.t ∧ (st'.t = st.t → st' = st))
    (fun st' v h _ _ => ⟨by rw [BState.fire_t]; omega, fun e => by rw [BState.fire_t] at e; omega⟩)
    _ st ⟨le_refl _, fun _ => rfl⟩

theorem burnIter_fix_or_grow (D : Fin n → Int) (k : Nat) (st : BState n) :
    burnPass G D (burnIter G D k st) = burnIter G D k st ∨ st.t + k ≤ (burnIter G D k st).t := by
  induction k generalizing st with
  | zero => exact Or.inr (le_refl _)
  | succ k ih =>
    simp only [burnIter]
    obtain ⟨hle, hfix⟩ := burnPass_t G D st
    by_cases ht : (burnPass G D st).t = st.t
    · have hst := hfix ht
      rw [hst, burnIter_eq, Function.iterate_fixed hst]
      exact Or.inl hst
    · exact (ih (burnPass G D st)).imp_right fun h => by omega

theorem burn_is_fixpoint (q : Fin n) (D : Fin n → Int) :
    (burnPass G D (burn G q D)).B = (burn G q D).B := by
  rcases burnIter_fix_or_grow G D n (burnInit q) with h | h
  · exact congrArg BState.B h
  · have h1 := burn_t_eq_size G q D
    have h2 : size (burn G q D).B ≤ n := (Finset.card_le_univ _).trans_eq (Fintype.card_fin n)
    have h3 : (burnInit q : BState n).t = 1 := rfl
    unfold burn at h1 h2
    omega

theorem burn_q (q : Fin n) (D : Fin n → Int) : (burn G q D).B q = true :=
  burn_induction G q D (P := fun st => st.B q = true) (by simp [burnInit]) fun st v h _ _ => by simp [h]

/-- T4: what the burn leaves unburnt is a legal set (the largest: `legal_subset_unburnt`) -/
theorem burn_unburnt_legal {q : Fin n} {D : Fin n → Int} (hne : ∃ v, (burn G q D).B v = false) :
    Legal G q D (unburnt (burn G q D)) :=
  unburnt_legal G q D _ (burn_is_fixpoint G q D) (burn_q G q D) hne

/-- T4: everything burns exactly when no set can fire legally -/
theorem burn_all_iff (q : Fin n) (D : Fin n → Int) :
    (∀ v, (burn G q D).B v = true) ↔ ∀ S, ¬ Legal G q D S := by
  constructor
  · intro hall S hS
    obtain ⟨v, hv⟩ := hS.1
    simpa [hall v] using legal_subset_unburnt G q D S hS v hv
  · exact fun hno => by_contra fun hall => hno _ (burn_unburnt_legal G (by simpa using hall))

theorem not_allF_burnt {q : Fin n} {D : Fin n → Int} (h : ¬ allF (burn G q D).B = true) :
    ∃ v, (burn G q D).B v = false := by
  simpa [allF_iff] using h

end CF
