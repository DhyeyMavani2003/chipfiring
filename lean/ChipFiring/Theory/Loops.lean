import ChipFiring.Theory.Burn
/-
  Partial correctness of the model's loops: what each guarantees when it returns (class, signs,
  final burn, recorded trace).  In `reduceLoop G q order fuel f D tr k`: `fuel` bounds the steps of
  each debt concentration, `f` the firing rounds still allowed, `tr` is the trace recorded so far,
  `k` the number of rounds done (only reported).
-/
open Finset

namespace CF
variable {n : Nat} (G : Graph n)

theorem debtLoop_cons (order : List (Fin n)) (f : Nat) (DV : Vec Int n) (v : Fin n) (rest : List (Fin n))
    (tr : List (Vec Int n)) :
    debtLoop G order (f + 1) ⟨DV, v :: rest, tr⟩ =
      if DV.get v < 0 then
        debtLoop G order f ⟨mat (borrow G DV.get v), v :: rest, mat (borrow G DV.get v) :: tr⟩
      else debtLoop G order f ⟨DV, rest, tr⟩ := rfl

theorem debtLoop_nil (order : List (Fin n)) (f : Nat) (DV : Vec Int n) (tr : List (Vec Int n)) :
    debtLoop G order (f + 1) ⟨DV, [], tr⟩ =
      if order.any (fun v => decide (DV.get v < 0)) then debtLoop G order f ⟨DV, order, tr⟩
      else some ⟨DV, [], tr⟩ := rfl

/-- what a returned debt concentration guarantees, relative to any divisor `D0` of the class -/
theorem debtLoop_spec (hs : ∀ v w, G.adj v w = G.adj w v) {order : List (Fin n)} {D0 : Fin n → Int}
    {f : Nat} {s s' : DebtSt n} (h : debtLoop G order f s = some s')
    (hD : LinEq G D0 s.D) (htr : ∀ x ∈ s.tr, LinEq G D0 x.get) :
    LinEq G D0 s'.D ∧ (∀ v ∈ order, 0 ≤ s'.D v) ∧ ∀ x ∈ s'.tr, LinEq G D0 x.get := by
  induction f generalizing s with
  | zero => simp [debtLoop] at h
  | succ f ih =>
    obtain ⟨DV, _ | ⟨v, rest⟩, tr⟩ := s
    · rw [debtLoop_nil] at h
      split at h
      · exact ih h hD htr
      · rename_i hany
        obtain rfl : _ = s' := Option.some.inj h
        refine ⟨hD, fun v hv => ?_, htr⟩
        by_contra hneg
        exact hany (List.any_eq_true.mpr ⟨v, hv, by simpa [DebtSt.D] using hneg⟩)
    · rw [debtLoop_cons] at h
      split at h
      · have hb : LinEq G D0 (borrow G DV.get v) := hD.trans (borrow_linEq G hs DV.get v)
        exact ih h (by simpa [DebtSt.D] using hb) (List.forall_mem_cons.mpr ⟨by simpa using hb, htr⟩)
      · exact ih h hD htr

theorem sendDebt_spec (hs : ∀ v w, G.adj v w = G.adj w v) {order : List (Fin n)} {fuel : Nat}
    {D : Fin n → Int} {s : DebtSt n} (h : sendDebt G order fuel D = some s) :
    LinEq G D s.D ∧ (∀ v ∈ order, 0 ≤ s.D v) ∧ ∀ x ∈ s.tr, LinEq G D x.get :=
  debtLoop_spec G hs h (by simpa [DebtSt.D] using LinEq.refl G D) (by simp)

theorem reduceLoop_succ {q : Fin n} {order : List (Fin n)} {D : Fin n → Int} {fuel : Nat} {s : DebtSt n}
    (hs : sendDebt G order fuel D = some s) {f : Nat} {tr : List (Vec Int n)} {k : Nat} :
    reduceLoop G q order fuel (f + 1) D tr k =
      if allF (burn G q s.D).B then
        some ⟨s.DV, burn G q s.D, List.replicate ((burn G q s.D).t - 1 + 1) s.DV ++ (s.tr ++ tr), k⟩
      else reduceLoop G q order fuel f (fireSet G (unburnt (burn G q s.D)) s.D)
        (mat (fireSet G (unburnt (burn G q s.D)) s.D) :: s.DV ::
          (List.replicate ((burn G q s.D).t - 1 + 1) s.DV ++ (s.tr ++ tr))) (k + 1) := by
  rw [reduceLoop, hs]
  simp only [get_mat]

/-- what a returned reduction is, relative to the divisor `D` it started from and the snapshots
    `tr` recorded before -/
structure IsReduction (q : Fin n) (order : List (Fin n)) (D : Fin n → Int) (tr : List (Vec Int n))
    (red : Reduced n) : Prop where
  linEq : LinEq G D red.D
  nonneg : ∀ v ∈ order, 0 ≤ red.D v
  st_eq : red.st = burn G q red.D
  burnt : ∀ v, (burn G q red.D).B v = true
  trace : (∀ x ∈ tr, LinEq G D x.get) → ∀ x ∈ red.tr, LinEq G D x.get

theorem reduceLoop_isReduction (hs : ∀ v w, G.adj v w = G.adj w v) {q : Fin n} {order : List (Fin n)}
    {fuel f : Nat} {D : Fin n → Int} {tr : List (Vec Int n)} {k : Nat} {red : Reduced n}
    (h : reduceLoop G q order fuel f D tr k = some red) : IsReduction G q order D tr red := by
  induction f generalizing D tr k with
  | zero => simp [reduceLoop] at h
  | succ f ih =>
    cases hsd : sendDebt G order fuel D with
    | none => simp [reduceLoop, hsd] at h
    | some s =>
      rw [reduceLoop_succ G hsd] at h
      obtain ⟨h1, h2, h3⟩ := sendDebt_spec G hs hsd
      have htr : (∀ x ∈ tr, LinEq G D x.get) →
          ∀ x ∈ List.replicate ((burn G q s.D).t - 1 + 1) s.DV ++ (s.tr ++ tr), LinEq G D x.get := by
        intro h0 x hx
        rcases List.mem_append.mp hx with hx | hx
        · rw [List.eq_of_mem_replicate hx]; exact h1
        · exact (List.mem_append.mp hx).elim (h3 x) (h0 x)
      split at h
      · rename_i hall
        injection h with h; subst h
        exact ⟨h1, h2, rfl, (allF_iff _).mp hall, htr⟩
      · have hf : LinEq G D (fireSet G (unburnt (burn G q s.D)) s.D) :=
          h1.trans (fireSet_linEq G hs _ _)
        have hI := ih h
        -- the class is the same, so "equivalent to the new start" and "to `D`" are interchangeable
        refine ⟨hf.trans hI.linEq, hI.nonneg, hI.st_eq, hI.burnt,
          fun h0 x hx => hf.trans (hI.trace (fun y hy => hf.symm.trans ?_) x hx)⟩
        rcases List.mem_cons.mp hy with rfl | hy
        · simpa using hf
        · rcases List.mem_cons.mp hy with rfl | hy
          · exact h1
          · exact htr h0 y hy

namespace IsReduction
variable {G} {q : Fin n} {order : List (Fin n)} {D : Fin n → Int} {tr : List (Vec Int n)} {red : Reduced n}

theorem qreduced (h : IsReduction G q order D tr red) (hcover : ∀ v, v ≠ q → v ∈ order) :
    QReduced G q red.D :=
  ⟨fun v hv => h.nonneg v (hcover v hv), (burn_all_iff G q red.D).mp h.burnt⟩

theorem verdict (h : IsReduction G q order D tr red) (hcover : ∀ v, v ≠ q → v ∈ order) :
    0 ≤ red.D q ↔ Winnable G D := by
  rw [winnable_congr h.linEq, qreduced_verdict G q red.D (h.qreduced hcover)]

theorem deg_eq (h : IsReduction G q order D tr red) (hs : ∀ v w, G.adj v w = G.adj w v) :
    deg red.D = deg D := deg_linEq G hs h.linEq

end IsReduction

end CF
