import ChipFiring.Spec.Basic
import ChipFiring.Model.Dhar
/-
  The BFS behind `send_debt_to_q` reaches every vertex of a connected graph, so the debt order
  lists every vertex other than q (`debtOrder_cover`): the covering hypothesis of the EWD theorems.
-/
namespace CF
variable {n : Nat}

theorem mem_nbrs (G : Graph n) (hint : Fin n → List (Fin n)) (v w : Fin n) :
    w ∈ nbrs G hint v ↔ 0 < G.adj v w := by
  unfold nbrs
  by_cases hm : w ∈ hint v <;> simp [hm]

/-- the inner loop of `bfsGo` adds exactly the neighbours not seen before -/
theorem mem_expand (vis : List (Fin n)) (x : Fin n) : ∀ nbl acc : List (Fin n),
    x ∈ nbl.foldl (fun acc w => if vis.contains w || acc.contains w then acc else acc ++ [w]) acc ↔
      x ∈ acc ∨ (x ∈ nbl ∧ x ∉ vis)
  | [], acc => by simp
  | w :: ws, acc => by
    rw [List.foldl_cons, mem_expand vis x ws, List.mem_cons]
    split
    next hc =>
      have hw : w ∈ vis ∨ w ∈ acc := by simpa using hc
      exact or_congr_right' fun hx => and_congr_left fun hv =>
        ⟨.inr, fun h => h.resolve_left fun e => hw.elim (e ▸ hv) (e ▸ hx)⟩
    next hc =>
      have hw : w ∉ vis ∧ w ∉ acc := by simpa using hc
      rw [List.mem_append, List.mem_singleton, or_assoc, or_and_right]
      exact or_congr_right (or_congr_left ⟨fun h => ⟨h, h ▸ hw.1⟩, fun h => h.1⟩)

/-- … each of them once -/
theorem nodup_expand (vis : List (Fin n)) : ∀ nbl acc : List (Fin n), acc.Nodup →
    (nbl.foldl (fun acc w => if vis.contains w || acc.contains w then acc else acc ++ [w]) acc).Nodup
  | [], _, h => h
  | w :: ws, acc, h => by
    rw [List.foldl_cons]
    split
    next => exact nodup_expand vis ws acc h
    next hc =>
      have hw : w ∉ vis ∧ w ∉ acc := by simpa using hc
      rw [← List.concat_eq_append]
      exact nodup_expand vis ws _ (h.concat hw.2)

/-- BFS invariant: visited is duplicate-free, pending ⊆ visited, and every visited vertex that is
    no longer pending has all its neighbours visited -/
structure BfsInv (nb : Fin n → List (Fin n)) (pending vis : List (Fin n)) : Prop where
  nodup : vis.Nodup
  pnodup : pending.Nodup
  sub : ∀ x ∈ pending, x ∈ vis
  closed : ∀ x ∈ vis, x ∉ pending → ∀ w ∈ nb x, w ∈ vis

/-- one step: the head `c` of the queue is done, its unseen neighbours `new` join both lists -/
theorem BfsInv.step {nb : Fin n → List (Fin n)} {c : Fin n} {rest vis new : List (Fin n)}
    (inv : BfsInv nb (c :: rest) vis) (hnd : new.Nodup) (hnew : ∀ x, x ∈ new ↔ x ∈ nb c ∧ x ∉ vis) :
    BfsInv nb (rest ++ new) (vis ++ new) := by
  have hdis : ∀ a ∈ new, a ∉ vis := fun a ha => ((hnew a).mp ha).2
  refine ⟨inv.nodup.append hnd (List.disjoint_right.mpr hdis),
    (List.nodup_cons.mp inv.pnodup).2.append hnd
      (List.disjoint_right.mpr fun a ha h => hdis a ha (inv.sub a (List.mem_cons_of_mem _ h))),
    fun x hx => ?_, fun x hx hnp w hw => ?_⟩
  · rw [List.mem_append] at hx ⊢
    exact hx.imp_left fun h => inv.sub x (List.mem_cons_of_mem _ h)
  · rw [List.mem_append, not_or] at hnp
    have hxv : x ∈ vis := (List.mem_append.mp hx).resolve_right hnp.2
    rw [List.mem_append, hnew w]
    by_cases hxc : x = c
    · subst hxc
      exact (em (w ∈ vis)).imp_right fun hwv => ⟨hw, hwv⟩
    · exact Or.inl (inv.closed x hxv (fun h => (List.mem_cons.mp h).elim hxc hnp.1) w hw)

theorem bfsGo_spec (nb : Fin n → List (Fin n)) :
    ∀ (fuel : Nat) (pending vis : List (Fin n)), BfsInv nb pending vis →
      (n - vis.length) + pending.length < fuel →
      (∀ x ∈ vis, x ∈ bfsGo nb fuel pending vis) ∧
      (∀ x ∈ bfsGo nb fuel pending vis, ∀ w ∈ nb x, w ∈ bfsGo nb fuel pending vis) := by
  intro fuel
  induction fuel with
  | zero => intro p v _ h; omega
  | succ f ih =>
    intro pending vis inv hfuel
    cases pending with
    | nil => exact ⟨fun x hx => hx, fun x hx w hw => inv.closed x hx List.not_mem_nil w hw⟩
    | cons c rest =>
      have inv' := inv.step (nodup_expand vis _ [] List.nodup_nil) fun x => by
        rw [mem_expand vis x (nb c)]
        simp
      -- the measure drops: `vis` stays duplicate-free, hence no longer than `n`
      have hlen := inv'.nodup.length_le_card
      obtain ⟨h1, h2⟩ := ih _ _ inv' (by
        simp only [List.length_append, List.length_cons, Fintype.card_fin] at hfuel hlen ⊢
        omega)
      exact ⟨fun x hx => h1 x (List.mem_append.mpr (Or.inl hx)), h2⟩

theorem debtOrder_cover (G : Graph n) (hs : ∀ v w, G.adj v w = G.adj w v) (hc : G.Connected)
    (hint : Fin n → List (Fin n)) (q v : Fin n) (hv : v ≠ q) : v ∈ debtOrder G hint q := by
  unfold debtOrder
  simp only [List.mem_filter, List.mem_reverse, decide_eq_true_eq]
  refine ⟨?_, hv⟩
  have inv0 : BfsInv (nbrs G hint) [q] [q] := ⟨by simp, by simp, by simp, by simp⟩
  obtain ⟨h1, h2⟩ := bfsGo_spec (nbrs G hint) (n + 1) [q] [q] inv0 (by simp; omega)
  exact hc.induction q (P := fun u => u ∈ bfsGo (nbrs G hint) (n + 1) [q] [q]) (h1 q (by simp))
    (fun u w hadj hw => h2 w hw u ((mem_nbrs G hint w u).mpr (by rw [hs w u]; exact hadj))) v

theorem debtOrder_not_mem (G : Graph n) (hint : Fin n → List (Fin n)) (q : Fin n) : q ∉ debtOrder G hint q := by
  simp [debtOrder]

theorem cover_of_connected (G : Graph n) (hG : G.WF) (hc : G.Connected) (hint : Fin n → List (Fin n)) :
    ∀ q v, v ≠ q → v ∈ debtOrder G hint q := fun q v hv => debtOrder_cover G hG.symm hc hint q v hv

end CF
