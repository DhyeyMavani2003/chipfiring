import ChipFiring.Theory.OrientInv
import ChipFiring.Theory.Ref
/-
  Dict-level save/load of orientations: the constructor run on the list of oriented edges of an
  orientation object rebuilds its edge states and counters.
-/
open Finset
namespace CF
open Orient
variable {n : Nat}

theorem checkFullness_st (G : Graph n) (o : Orient n) :
    (checkFullness G o).1.st = o.st ∧ (checkFullness G o).1.inD = o.inD ∧ (checkFullness G o).1.outD = o.outD :=
  ⟨rfl, rfl, rfl⟩

/-- the constructor on a list of unoriented edges: the listed pairs point as listed, every pair not
    listed either way is as it was -/
theorem Orient.new_go_spec (G : Graph n) (hG : G.WF) :
    ∀ (ps : List (Fin n × Fin n)) (o : Orient n), Inv G o →
      (∀ p ∈ ps, 0 < G.adj p.1 p.2) → ps.Nodup → (∀ p ∈ ps, (p.2, p.1) ∉ ps) →
      (∀ p ∈ ps, o.st p.1 p.2 = 0) →
      ∃ o', Orient.new.go G (ps.map fun p => (p.1.1, p.2.1)) o = .ok o' ∧
        (∀ p ∈ ps, o'.st p.1 p.2 = 1) ∧ ∀ x y, (x, y) ∉ ps → (y, x) ∉ ps → o'.st x y = o.st x y := by
  intro ps
  induction ps with
  | nil => exact fun o _ _ _ _ _ => ⟨(checkFullness G o).1, rfl, nofun, fun _ _ _ _ => rfl⟩
  | cons p ps ih =>
    intro o hinv hadj hnd hrev hzero
    obtain ⟨a, b⟩ := p
    have hab0 : 0 < G.adj a b := hadj (a, b) List.mem_cons_self
    have hne : a ≠ b := by rintro rfl; rw [hG.loopless a] at hab0; omega
    have hst : o.st a b = 0 := hzero (a, b) List.mem_cons_self
    have hst' : o.st b a = 0 := by rw [hinv.agree a b, hst]; rfl
    have hn1 : (a, b) ∉ ps := (List.nodup_cons.mp hnd).1
    have hn2 : (b, a) ∉ ps := fun h => hrev (a, b) List.mem_cons_self (List.mem_cons_of_mem _ h)
    obtain ⟨o1, ho1⟩ := setO_accepts G o a b 1 (by omega) hne
    obtain ⟨-, -, hst1, -, -⟩ := setO_ok ho1
    -- the call touches the two states of its pair only
    have hoff : ∀ x y, (x, y) ≠ (a, b) → (x, y) ≠ (b, a) → o1.st x y = o.st x y := fun x y h1 h2 => by
      rw [hst1, if_neg fun h => h1 (Prod.ext h.1 h.2), if_neg fun h => h2 (Prod.ext h.1 h.2)]
    obtain ⟨o', ho', hone, hrest⟩ := ih o1 (setO_inv hG hinv (by omega) ho1)
      (fun p hp => hadj p (List.mem_cons_of_mem _ hp)) (List.nodup_cons.mp hnd).2
      (fun p hp h => hrev p (List.mem_cons_of_mem _ hp) (List.mem_cons_of_mem _ h))
      (fun p hp => by
        rw [hoff p.1 p.2 (fun e => hn1 (e ▸ hp)) (fun e => hn2 (e ▸ hp))]
        exact hzero p (List.mem_cons_of_mem _ hp))
    refine ⟨o', ?_, fun p hp => ?_, fun x y hxy hyx => ?_⟩
    · simp only [List.map_cons, Orient.new.go, ref?_val]
      rw [if_neg (by rintro (h | h); exacts [absurd h (by omega), hne h]),
        if_neg (by rintro (h | h); exacts [h hst, h hst']), ho1]
      exact ho'
    · rcases List.mem_cons.mp hp with rfl | hp
      · rw [hrest _ _ hn1 hn2, hst1, if_pos ⟨rfl, rfl⟩]
      · exact hone p hp
    · rw [List.mem_cons, not_or] at hxy hyx
      rw [hrest x y hxy.2 hyx.2, hoff x y hxy.1 fun e => hyx.1 (by rw [Prod.mk.injEq] at e ⊢; exact ⟨e.2, e.1⟩)]

/-- under the invariant the counters are determined by the edge states -/
theorem Orient.Inv.counters_eq {G : Graph n} {o o' : Orient n} (h : Inv G o) (h' : Inv G o')
    (hst : ∀ x y, o'.st x y = o.st x y) : (∀ v, o'.inD v = o.inD v) ∧ ∀ v, o'.outD v = o.outD v := by
  refine ⟨fun v => ?_, fun v => ?_⟩
  · rw [h'.inOk v, h.inOk v]
    exact Finset.sum_congr rfl fun u _ => by rw [hst u v]
  · rw [h'.outOk v, h.outOk v]
    exact Finset.sum_congr rfl fun u _ => by rw [hst v u]

/-- orientation dict round trip: the list of oriented edges (source first), in any order, rebuilds the
    same edge states and counters -/
theorem orientation_dict_roundtrip (G : Graph n) (hG : G.WF) (o : Orient n) (hinv : Inv G o)
    (ps : List (Fin n × Fin n)) (hnd : ps.Nodup)
    (hps : ∀ a b, (a, b) ∈ ps ↔ 0 < G.adj a b ∧ o.st a b = 1) :
    ∃ o', Orient.new G (ps.map fun p => (p.1.1, p.2.1)) = .ok o' ∧
      (∀ x y, o'.st x y = o.st x y) ∧ (∀ v, o'.inD v = o.inD v) ∧ (∀ v, o'.outD v = o.outD v) := by
  -- a listed pair points forward in `o`, so its reverse points backward and is not listed
  have hrev : ∀ x y, (y, x) ∈ ps → o.st x y = 2 := fun x y h => by
    rw [hinv.agree y x, ((hps y x).mp h).2]; rfl
  obtain ⟨o', ho', hone, hrest⟩ := Orient.new_go_spec G hG ps blank (blank_inv G)
    (fun p hp => ((hps p.1 p.2).mp hp).1) hnd
    (fun p hp h => by have := hrev p.1 p.2 h; rw [((hps p.1 p.2).mp hp).2] at this; omega)
    (fun p _ => by simp [blank, st])
  have hinv' : Inv G o' := new_go_inv G hG _ _ o' (blank_inv G) ho'
  have hsteq : ∀ x y, o'.st x y = o.st x y := by
    intro x y
    by_cases h1 : (x, y) ∈ ps
    · rw [hone _ h1, ((hps x y).mp h1).2]
    · by_cases h2 : (y, x) ∈ ps
      · rw [hinv'.agree y x, hone _ h2, hrev x y h2]; rfl
      · -- not listed either way: unoriented in `o`, and left blank
        rw [hrest x y h1 h2, show (blank : Orient n).st x y = 0 by simp [blank, st]]
        by_cases hadj : G.adj x y = 0
        · exact (hinv.zero x y hadj).symm
        · have hr := hinv.range x y
          have hn1 : o.st x y ≠ 1 := fun h => h1 ((hps x y).mpr ⟨by omega, h⟩)
          have hn2 : o.st x y ≠ 2 := fun h => h2 ((hps y x).mpr
            ⟨by rw [hG.symm y x]; omega, by rw [hinv.agree x y, h]; rfl⟩)
          omega
  exact ⟨o', ho', hsteq, hinv.counters_eq hinv' hsteq⟩

end CF
