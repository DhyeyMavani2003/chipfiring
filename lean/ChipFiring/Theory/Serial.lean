import ChipFiring.Theory.GraphInv
/-
  Dict-level save/load of graphs: the canonical edge list of a graph gives the graph back; hence
  what `remove_vertex`, which rebuilds through the constructor, returns.
-/
open Finset

namespace CF
variable {n : Nat}

/-- the edge list written by `to_dict`, as the constructor receives it back -/
def dictEdges (G : Graph n) : List (Nat × Nat × Int) :=
  G.edgeList.map fun (a, b, k) => (a.1, b.1, (k : Int))

theorem mem_edgeList (G : Graph n) (a b : Fin n) (k : Nat) :
    (a, b, k) ∈ G.edgeList ↔ a.1 < b.1 ∧ 0 < G.adj a b ∧ k = G.adj a b := by
  unfold Graph.edgeList
  simp only [List.mem_flatMap, List.mem_finRange, List.mem_filterMap, true_and, Option.ite_none_right_eq_some,
    Option.some.injEq, Prod.mk.injEq]
  constructor
  · rintro ⟨_, _, ⟨h1, h2⟩, rfl, rfl, rfl⟩
    exact ⟨h1, h2, rfl⟩
  · rintro ⟨h1, h2, rfl⟩
    exact ⟨a, b, ⟨h1, h2⟩, rfl, rfl, rfl⟩

theorem dictEdges_valid (G : Graph n) : ∀ e ∈ dictEdges G, e.1 < n ∧ e.2.1 < n ∧ e.1 ≠ e.2.1 ∧ 0 < e.2.2 := by
  intro e he
  unfold dictEdges at he
  obtain ⟨⟨a, b, k⟩, hmem, rfl⟩ := List.mem_map.mp he
  obtain ⟨h1, h2, rfl⟩ := (mem_edgeList G a b k).mp hmem
  exact ⟨a.2, b.2, by simp; omega, by simp; exact h2⟩

theorem sum_map_filterMap {α β : Type} (l : List α) (f : α → Option β) (g : β → Nat) :
    ((l.filterMap f).map g).sum = (l.map fun a => match f a with | some b => g b | none => 0).sum := by
  induction l with
  | nil => simp
  | cons a l ih =>
    simp only [List.filterMap_cons, List.map_cons, List.sum_cons]
    cases f a with
    | none => simp [ih]
    | some b => simp [ih]

theorem sum_map_flatMap {α β : Type} (l : List α) (F : α → List β) (g : β → Nat) :
    ((l.flatMap F).map g).sum = (l.map fun a => ((F a).map g).sum).sum := by
  induction l with
  | nil => simp
  | cons a l ih => simp [List.flatMap_cons, ih]

/-- over the pairs in index order, only `(x, y)` itself meets the unordered pair `{x, y}` -/
theorem sum_upper_pair (G : Graph n) {x y : Fin n} (hlt : x.1 < y.1) :
    ∑ a : Fin n, ∑ b : Fin n,
      (if a.1 < b.1 then (if (x = a ∧ y = b) ∨ (x = b ∧ y = a) then G.adj a b else 0) else 0) = G.adj x y := by
  have e : ∀ a b : Fin n,
      (if a.1 < b.1 then (if (x = a ∧ y = b) ∨ (x = b ∧ y = a) then G.adj a b else 0) else 0)
        = if b = y then (if a = x then G.adj x y else 0) else 0 := by
    intro a b
    by_cases h : b = y ∧ a = x
    · obtain ⟨rfl, rfl⟩ := h
      simp [hlt]
    · have : ¬ (a.1 < b.1 ∧ ((x = a ∧ y = b) ∨ (x = b ∧ y = a))) := by
        rintro ⟨hab, ⟨rfl, rfl⟩ | ⟨rfl, rfl⟩⟩
        · exact h ⟨rfl, rfl⟩
        · omega
      rw [← ite_and, ← ite_and, if_neg this, if_neg h]
  simp only [e, Finset.sum_ite_eq', Finset.mem_univ, if_true]

theorem sum_contrib_edgeList (G : Graph n) (hs : ∀ v w, G.adj v w = G.adj w v) (hl : ∀ v, G.adj v v = 0) (x y : Fin n) :
    ((dictEdges G).map fun e => edgeContrib e x y).sum = G.adj x y := by
  have step : ((dictEdges G).map fun e => edgeContrib e x y).sum
      = ∑ a : Fin n, ∑ b : Fin n, (if a.1 < b.1 then (if (x = a ∧ y = b) ∨ (x = b ∧ y = a) then G.adj a b else 0) else 0) := by
    unfold dictEdges Graph.edgeList
    rw [List.map_map, sum_map_flatMap, Fin.sum_univ_def]
    congr 1
    apply List.map_congr_left
    intro a _
    rw [sum_map_filterMap, Fin.sum_univ_def]
    congr 1
    apply List.map_congr_left
    intro b _
    by_cases h1 : a.1 < b.1
    · by_cases h2 : 0 < G.adj a b
      · simp only [h1, h2, and_self, if_true, Function.comp, edgeContrib, Fin.val_inj, Int.toNat_natCast]
      · have h0 : G.adj a b = 0 := by omega
        simp [h1, h0]
    · simp [h1]
  rw [step]
  rcases Nat.lt_trichotomy x.1 y.1 with h | h | h
  · exact sum_upper_pair G h
  · rw [Fin.ext h, hl]
    refine Finset.sum_eq_zero fun a _ => Finset.sum_eq_zero fun b _ => ?_
    rw [← ite_and]
    refine if_neg ?_
    rintro ⟨hab, ⟨rfl, rfl⟩ | ⟨rfl, rfl⟩⟩ <;> omega
  · rw [hs x y, ← sum_upper_pair G h]
    simp only [or_comm, and_comm]

/-- rebuilding from the canonical edge list gives back the adjacency (the caches of `H` play no
    part: `remove_vertex` uses this with an `H` that has none) -/
theorem Graph.new_dictEdges (H : Graph n) (hs : ∀ v w, H.adj v w = H.adj w v) (hl : ∀ v, H.adj v v = 0) :
    ∃ G', Graph.new n false (dictEdges H) = .ok G' ∧ G'.adj = H.adj := by
  obtain ⟨G', hG'⟩ := Graph.new_accepts (dictEdges_valid H)
  exact ⟨G', hG', funext₂ fun x y => by rw [Graph.new_adj hG', sum_contrib_edgeList H hs hl]⟩

/-- `CFGraph.from_dict(G.to_dict())` is `G`, caches included -/
theorem graph_dict_roundtrip (G : Graph n) (hG : G.WF) : Graph.new n false (dictEdges G) = .ok G := by
  obtain ⟨G', h, hadj⟩ := Graph.new_dictEdges G hG.symm hG.loopless
  rw [h, (Graph.new_wf h).ext hG hadj]

/-- the adjacency with `v` isolated -/
def Graph.isolate (G : Graph n) (v : Fin n) : Graph n :=
  Graph.ofFns (fun a b => if a = v ∨ b = v then 0 else G.adj a b) (fun _ => 0) 0

theorem inducedEdges_eq (G : Graph n) (v : Fin n) :
    (G.inducedEdges v).map (fun (x, y, k) => (x.1, y.1, (k : Int))) = dictEdges (Graph.isolate G v) := by
  unfold dictEdges Graph.inducedEdges Graph.edgeList
  congr 1
  apply List.flatMap_congr
  intro a _
  apply List.filterMap_congr
  intro b _
  simp only [Graph.isolate, Graph.adj_ofFns]
  by_cases h1 : a.1 < b.1 <;> by_cases ha : a = v <;> by_cases hb : b = v <;> simp [h1, ha, hb]

/-- `remove_vertex(v)` is the induced multigraph on the remaining vertices -/
theorem removeVertex_adj (G : Graph n) (hG : G.WF) (v x y : Fin n) :
    (removeVertex G v).adj x y = if x = v ∨ y = v then 0 else G.adj x y := by
  obtain ⟨G', h, hadj⟩ := Graph.new_dictEdges (Graph.isolate G v)
    (by intro a b; simp only [Graph.isolate, Graph.adj_ofFns, hG.symm a b]; simp [or_comm])
    (by intro a; simp only [Graph.isolate, Graph.adj_ofFns, hG.loopless a]; simp)
  unfold removeVertex
  rw [inducedEdges_eq, (Graph.new_eq_ok_iff.mp h).2, hadj]
  simp [Graph.isolate]

end CF
