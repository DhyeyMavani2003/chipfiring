import ChipFiring.Theory.LinEq
import ChipFiring.Theory.Folds
import ChipFiring.Model.Comb
/-
  Upper bounds on the gonality of a simple connected graph: n − |I| for every independent set I
  (in particular n − 1 and n − α).
-/
open Finset
namespace CF
variable {n : Nat} (G : Graph n)

/-- a chip taken from a vertex of the independent set is won back by borrowing there once (simple
    graph, no isolated vertex) -/
theorem independent_complement_wins (hs : ∀ v w, G.adj v w = G.adj w v) (hl : ∀ v, G.adj v v = 0)
    (hsimple : ∀ u v, G.adj u v ≤ 1) (hnbr : ∀ v, ∃ w, 0 < G.adj v w)
    (I : Fin n → Bool) (hI : ∀ u v, I u = true → I v = true → G.adj u v = 0) :
    RankGeOne G (fun v => if I v then 0 else 1) := by
  intro w
  by_cases hw : I w = true
  · refine (winnable_congr (borrow_linEq G hs _ w)).mpr (Eff.winnable G fun x => ?_)
    simp only [borrow, chipAt]
    by_cases hx : x = w
    · subst hx
      obtain ⟨u, hu⟩ := hnbr x
      have : (G.adj x u : Int) ≤ G.rowSum x := by
        rw [rowSum_cast]
        exact Finset.single_le_sum (f := fun v => (G.adj x v : Int)) (fun _ _ => by positivity) (mem_univ u)
      simp only [hw, hl x, if_true]
      omega
    · by_cases hxI : I x = true
      · simp [hx, hxI, hI w x hw hxI]
      · have := hsimple w x
        simp only [hx, hxI, Bool.false_eq_true, if_false]
        omega
  · apply Eff.winnable
    intro x
    simp only [chipAt]
    by_cases hx : x = w
    · subst hx; simp [hw]
    · simp only [hx, if_false]; split <;> omega

theorem connected_has_neighbour (hc : G.Connected) (hn : 2 ≤ n) (v : Fin n) : ∃ w, 0 < G.adj v w := by
  have : Nontrivial (Fin n) := Fin.nontrivial_iff_two_le.mpr hn
  obtain ⟨q, hq⟩ := exists_ne v
  obtain ⟨rk, -, h⟩ := hc q
  obtain ⟨w, hw, -⟩ := h v hq.symm
  exact ⟨w, hw⟩

/-- the model's subset enumeration is Mathlib's `List.sublists'` -/
theorem mem_subsetsOf_go {l S : List (Fin n)} : S ∈ subsetsOf.go n l ↔ S.Sublist l := by
  have h : subsetsOf.go n l = l.sublists' := by
    induction l with
    | nil => rfl
    | cons x xs ih => rw [subsetsOf.go, ih, List.sublists'_cons]
  rw [h, List.mem_sublists']

theorem subsetsOf_nodup (S : List (Fin n)) (hS : S ∈ subsetsOf n) : S.Nodup :=
  (mem_subsetsOf_go.mp hS).nodup (List.nodup_finRange n)

theorem nil_mem_subsetsOf_go (l : List (Fin n)) : [] ∈ subsetsOf.go n l :=
  mem_subsetsOf_go.mpr (List.nil_sublist l)

theorem independenceNumber_attained : ∃ S : List (Fin n), S.Nodup ∧ isIndependent G S = true ∧
    S.length = independenceNumber G := by
  unfold independenceNumber
  rcases (foldl_max_spec List.length ((subsetsOf n).filter (isIndependent G)) 0).2.2 with h | ⟨S, hS, h⟩
  · exact ⟨[], List.nodup_nil, by simp [isIndependent], by rw [h]; rfl⟩
  · obtain ⟨h1, h2⟩ := List.mem_filter.mp hS
    exact ⟨S, subsetsOf_nodup S h1, h2, h.symm⟩

theorem sum_not_mem (S : List (Fin n)) (hnd : S.Nodup) :
    ∑ v : Fin n, (if decide (v ∈ S) then (0:Int) else 1) = (n : Int) - S.length := by
  have h : (univ.filter fun v : Fin n => ¬ decide (v ∈ S) = true) = S.toFinsetᶜ := by
    ext v
    simp only [mem_filter, mem_univ, true_and, decide_eq_true_eq, mem_compl, List.mem_toFinset]
  rw [Finset.sum_ite, Finset.sum_const_zero, zero_add, Finset.sum_const, h, Finset.card_compl, nsmul_one,
    Nat.cast_sub (Finset.card_le_univ _), Fintype.card_fin, List.toFinset_card_of_nodup hnd]

theorem gonality_le_of_independent (hG : G.WF) (hsimple : ∀ u v, G.adj u v ≤ 1)
    (hnbr : ∀ v, ∃ w, 0 < G.adj v w) (S : List (Fin n)) (hnd : S.Nodup) (hind : isIndependent G S = true)
    (k : Nat) (hk : IsGonality G k) : (k : Int) ≤ (n : Int) - S.length := by
  rw [← sum_not_mem S hnd]
  by_contra hlt
  refine hk.2 (fun v => if decide (v ∈ S) then 0 else 1) (fun v => by simp only; split <;> omega)
    (not_le.mp hlt)
    (independent_complement_wins G hG.symm hG.loopless hsimple hnbr (fun v => decide (v ∈ S)) fun u v hu hv => ?_)
  simp only [isIndependent, List.all_eq_true, decide_eq_true_eq] at hind hu hv
  exact hind u hu v hv

theorem bounds_upper_valid (hG : G.WF) (hc : G.Connected) (hn : 2 ≤ n) (hsimple : ∀ u v, G.adj u v ≤ 1)
    (k : Nat) (hk : IsGonality G k) :
    (k : Int) ≤ (boundsReport G).trivialUpper ∧ (k : Int) ≤ (boundsReport G).independenceUpper ∧
    (k : Int) ≤ (boundsReport G).upper := by
  have hnbr := connected_has_neighbour G hc hn
  have h2 : (k : Int) ≤ (n : Int) - independenceNumber G := by
    obtain ⟨S, hnd, hind, hlen⟩ := independenceNumber_attained G
    exact hlen ▸ gonality_le_of_independent G hG hsimple hnbr S hnd hind k hk
  have h1 : (k : Int) ≤ (n : Int) - 1 := by
    simpa using gonality_le_of_independent G hG hsimple hnbr [⟨0, by omega⟩] (by simp)
      (by simp [isIndependent, hG.loopless]) k hk
  refine ⟨h1, h2, ?_⟩
  simp only [boundsReport]
  exact le_min h1 h2

end CF
