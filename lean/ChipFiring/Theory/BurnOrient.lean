import ChipFiring.Theory.Burn
import ChipFiring.Theory.Acyclic
/-
  T5: the time-stamped burn.  Every burnt vertex other than q holds fewer chips than it has edges to
  vertices burnt strictly earlier; when everything burns the burn order is a topological order of a
  full orientation in which nothing enters q.
-/
open Finset

namespace CF
variable {n : Nat} (G : Graph n)

/-- the in-degree as recorded counts the edges from vertices burnt strictly earlier -/
theorem BState.indeg_eq_sum (st : BState n) (v : Fin n) :
    st.indeg G v = ∑ u, if st.B u && st.B v && decide (st.pos u < st.pos v) then (G.adj u v : Int) else 0 := by
  unfold BState.indeg BState.dir
  rw [sumZ_eq]
  refine Finset.sum_congr rfl fun u _ => ?_
  rcases Nat.eq_zero_or_pos (G.adj u v) with h | h <;> simp [h]

structure BInv (q : Fin n) (D : Fin n → Int) (st : BState n) : Prop where
  bq : st.B q = true
  posq : st.pos q = 0
  lt : ∀ w, st.B w = true → st.pos w < st.t
  inj : ∀ v w, st.B v = true → st.B w = true → st.pos v = st.pos w → v = w
  bound : ∀ v, st.B v = true → v ≠ q → D v < st.indeg G v

theorem binv_fire (hs : ∀ v w, G.adj v w = G.adj w v) (q : Fin n) (D : Fin n → Int) (st : BState n)
    (h : BInv G q D st) (v : Fin n)
    (hvB : st.B v = false) (hburn : D v < edgesTo G st.B v) : BInv G q D (st.fire v) := by
  have hvq : v ≠ q := by rintro rfl; rw [h.bq] at hvB; exact Bool.noConfusion hvB
  have old : ∀ w, (st.fire v).B w = true → w ≠ v → st.B w = true := by
    intro w hw hwv; simpa [hwv] using hw
  refine ⟨by simp [h.bq], by simp [Ne.symm hvq, h.posq], fun w hw => ?_,
    fun a b ha hb hab => ?_, fun a ha haq => ?_⟩
  · by_cases hwv : w = v
    · simp [hwv]
    · have := h.lt w (old w hw hwv)
      simp [hwv]; omega
  · by_cases hav : a = v <;> by_cases hbv : b = v
    · rw [hav, hbv]
    · have := h.lt b (old b hb hbv); simp [hav, hbv] at hab; omega
    · have := h.lt a (old a ha hav); simp [hav, hbv] at hab; omega
    · simp [hav, hbv] at hab; exact h.inj a b (old a ha hav) (old b hb hbv) hab
  · by_cases hav : a = v
    · -- the vertex that burns now: everything burnt so far is earlier
      subst hav
      have : (st.fire a).indeg G a = edgesTo G st.B a := by
        rw [BState.indeg_eq_sum, edgesTo_eq]
        refine Finset.sum_congr rfl fun w _ => ?_
        by_cases hwa : w = a
        · subst hwa; simp [hvB]
        · cases hw : st.B w
          · simp [hwa, hw]
          · have := h.lt w hw
            simp [hwa, hw, this, hs w a]
      rw [this]; exact hburn
    · -- a vertex burnt before: the new one is later
      have haB := old a ha hav
      have : (st.fire v).indeg G a = st.indeg G a := by
        rw [BState.indeg_eq_sum, BState.indeg_eq_sum]
        refine Finset.sum_congr rfl fun w _ => ?_
        by_cases hwv : w = v
        · subst hwv
          have := h.lt a haB
          have h2 : ¬ st.t < st.pos a := by omega
          simp [hav, hvB, h2]
        · simp [hwv, hav]
      rw [this]; exact h.bound a haB haq

theorem burn_binv (hs : ∀ v w, G.adj v w = G.adj w v) (q : Fin n) (D : Fin n → Int) :
    BInv G q D (burn G q D) := by
  refine burn_induction G q D ?_ fun st v h => binv_fire G hs q D st h v
  refine ⟨by simp [burnInit], by simp [burnInit], ?_, ?_, ?_⟩
  · intro w _; simp [burnInit]
  · intro v w hv hw _
    simp [burnInit] at hv hw; rw [hv, hw]
  · intro v hv hne; simp [burnInit, hne] at hv

variable {G}

theorem dir_iff (st : BState n) (hall : ∀ v, st.B v = true) (u v : Fin n) :
    st.dir G u v = true ↔ st.pos u < st.pos v ∧ 0 < G.adj u v := by
  simp [BState.dir, hall u, hall v]

theorem dir_full (hG : G.WF) (st : BState n) (hall : ∀ v, st.B v = true)
    (hinj : ∀ v w, st.pos v = st.pos w → v = w) : OFull G (st.dir G) := by
  intro u v huv
  have huv' : 0 < G.adj v u := hG.symm u v ▸ huv
  have hne : st.pos u ≠ st.pos v := fun e => by rw [hinj u v e, hG.loopless v] at huv; omega
  rw [Bool.eq_iff_iff, Bool.not_eq_true', ← Bool.not_eq_true, dir_iff st hall, dir_iff st hall]
  simp only [huv, huv', and_true]
  omega

theorem BState.indeg_eq (st : BState n) (v : Fin n) : st.indeg G v = CF.indeg G (st.dir G) v := by
  unfold BState.indeg CF.indeg; rw [sumZ_eq]

/-- T5: the certificate (q is the only source once the divisor has no debt off q) -/
theorem burn_certificate (hG : G.WF) (q : Fin n) (D : Fin n → Int)
    (hall : ∀ v, (burn G q D).B v = true) :
    OFull G ((burn G q D).dir G) ∧ OAcyclic G ((burn G q D).dir G) ∧
    (burn G q D).indeg G q = 0 ∧
    (∀ v, v ≠ q → D v < (burn G q D).indeg G v) ∧
    (∑ v, (burn G q D).indeg G v = (G.total : Int)) := by
  have inv := burn_binv G hG.symm q D
  have hfull := dir_full hG _ hall fun v w h => inv.inj v w (hall v) (hall w) h
  refine ⟨hfull, ⟨_, fun u v hd _ => ((dir_iff _ hall u v).mp hd).1⟩, ?_, fun v hv => ?_, ?_⟩
  · rw [BState.indeg_eq_sum]
    exact Finset.sum_eq_zero fun w _ => by rw [inv.posq]; simp
  · exact inv.bound v (hall v) hv
  · simp only [BState.indeg_eq]
    exact sum_indeg_full G hG hfull

theorem deg_le_genus_sub_one (hG : G.WF) (q : Fin n) (D : Fin n → Int)
    (hall : ∀ v, (burn G q D).B v = true) (hq : D q < 0) : deg D ≤ G.genus - 1 := by
  obtain ⟨hf, -, h0, hb, -⟩ := burn_certificate hG q D hall
  rw [← sum_indeg_sub_one G hG hf]
  exact Finset.sum_le_sum fun v _ => BState.indeg_eq (G := G) _ v ▸ dominated_of_bound h0 hb hq v

end CF
