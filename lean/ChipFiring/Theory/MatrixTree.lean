import ChipFiring.Theory.RedLap
import ChipFiring.Theory.Potential
import Mathlib.LinearAlgebra.FreeModule.Finite.CardQuotient
import Mathlib.LinearAlgebra.Determinant
/-
  Matrix-tree theorem, chip-firing form: on a connected multigraph the superstable configurations
  (q-reduced divisors up to the value at q) number det of the reduced Laplacian.  T7 and T3 make
  "superstables → cokernel of the reduced Laplacian" a bijection; Mathlib's Smith-normal-form theorem
  (`Submodule.natAbs_det_equiv`) gives |coker| = |det|.
-/
open Finset

namespace CF

theorem natAbs_det_eq_card_coker {ι : Type*} [Fintype ι] [DecidableEq ι] (A : Matrix ι ι ℤ)
    (hinj : Function.Injective A.mulVec) :
    A.det.natAbs = Nat.card ((ι → ℤ) ⧸ LinearMap.range (Matrix.toLin' A)) := by
  have hinj' : Function.Injective (Matrix.toLin' A) := hinj
  have h := Submodule.natAbs_det_equiv _ (LinearEquiv.ofInjective (Matrix.toLin' A) hinj')
  rwa [show _ ∘ₗ _ = Matrix.toLin' A from LinearMap.ext fun _ => rfl, LinearMap.det_toLin'] at h

variable {n : Nat} (G : Graph n) (q : Fin n)

theorem qreduced_of_res_eq {D D' : Fin n → Int} (h : res q D = res q D') (hq : QReduced G q D) :
    QReduced G q D' := by
  have h : ∀ v, v ≠ q → D v = D' v := fun v hv => congrFun h ⟨v, hv⟩
  refine ⟨fun v hv => by rw [← h v hv]; exact hq.1 v hv, ?_⟩
  rintro S ⟨hne, hSq, hleg⟩
  apply hq.2 S
  refine ⟨hne, hSq, fun v hv => ?_⟩
  have hvq : v ≠ q := by rintro rfl; rw [hSq] at hv; exact Bool.noConfusion hv
  rw [h v hvq]; exact hleg v hv

/-- superstable: q-reduced with any value at q (here 0) -/
def Superstable (c : Off q → Int) : Prop := QReduced G q (ext q c 0)

theorem QReduced.superstable_res {G : Graph n} {q : Fin n} {D : Fin n → Int} (h : QReduced G q D) :
    Superstable G q (res q D) :=
  qreduced_of_res_eq G q (res_ext q _ 0).symm h

def superstableEquiv : {D : Fin n → Int // QReduced G q D ∧ D q = 0} ≃ {c : Off q → Int // Superstable G q c} where
  toFun D := ⟨res q D.1, D.2.1.superstable_res⟩
  invFun c := ⟨ext q c.1 0, c.2, ext_q q c.1 0⟩
  left_inv D := Subtype.ext (by have h := ext_res q D.1; rwa [D.2.2] at h)
  right_inv c := Subtype.ext (res_ext q c.1 0)

/-- firing a script moves a configuration within its class modulo the reduced Laplacian -/
theorem res_applyScript (hl : ∀ v, G.adj v v = 0) (c : Off q → Int) (x : Int) (s : Fin n → Int) :
    res q (applyScript G (ext q c x) s) = c - (redLap G q).mulVec (res q fun v => s v - s q) := by
  have h := ext_res q fun v => s v - s q
  simp only [sub_self] at h
  rw [redLap_mulVec G q hl, h, lap_shift]
  funext v
  show ext q c x v.1 - lap G s v.1 = c v - lap G s v.1
  rw [ext_off]

/-- T15 -/
theorem card_superstable_eq_det (hG : G.WF) (hc : G.Connected) (hn : 0 < n) :
    Nat.card {c : Off q → Int // Superstable G q c} = ((redLap G q).det).natAbs := by
  classical
  rw [natAbs_det_eq_card_coker _ (redLap_injective G q hG hc)]
  set N := LinearMap.range (Matrix.toLin' (redLap G q))
  apply Nat.card_congr
  refine Equiv.ofBijective (fun c => (Submodule.Quotient.mk c.1 : _ ⧸ N)) ⟨?_, ?_⟩
  · rintro ⟨c1, h1⟩ ⟨c2, h2⟩ hφ
    obtain ⟨t, ht⟩ := (Submodule.Quotient.eq N).mp hφ
    rw [Matrix.toLin'_apply] at ht
    -- firing `ext t 0` from c1 gives c2 off q, and a q-reduced divisor; uniqueness applies
    have hres : res q (applyScript G (ext q c1 0) (ext q t 0)) = c2 := by
      rw [res_applyScript G q hG.loopless, ext_q]
      simp only [sub_zero]
      rw [show (res q fun v => ext q t 0 v) = t from res_ext q t 0, ht, sub_sub_cancel]
    have hq2 := qreduced_of_res_eq G q (hres.trans (res_ext q c2 0).symm).symm h2
    have heq := qreduced_unique G q _ _ h1 hq2 ⟨_, rfl⟩
    apply Subtype.ext
    show c1 = c2
    rw [← hres, ← heq, res_ext]
  · intro x
    obtain ⟨c, rfl⟩ := Submodule.Quotient.mk_surjective N x
    obtain ⟨D', ⟨s, rfl⟩, hqr⟩ := exists_qreduced G hG hc q (ext q c 0)
    refine ⟨⟨_, hqr.superstable_res⟩, (Submodule.Quotient.eq N).mpr ⟨-(res q fun v => s v - s q), ?_⟩⟩
    show _ = res q (applyScript G (ext q c 0) s) - c
    rw [Matrix.toLin'_apply, Matrix.mulVec_neg, res_applyScript G q hG.loopless]
    abel

theorem card_superstable_eq_det' (hG : G.WF) (hc : G.Connected) (hn : 0 < n) :
    (Nat.card {c : Off q → Int // Superstable G q c} : Int) = (redLap G q).det := by
  rw [card_superstable_eq_det G q hG hc hn]
  exact Int.natAbs_of_nonneg (redLap_det_pos G q hG hc).le

end CF
