import ChipFiring.Theory.BurnOrient
/-
  T6/T7: on a connected graph the reduced Laplacian has a positive supersolution `b`; firing a
  set off q lowers the potential Σ b·D.  Consequences: every divisor has a q-reduced
  representative (existence), and a divisor of degree ≥ genus is winnable (T10).
-/
open Finset

namespace CF
variable {n : Nat} (G : Graph n)

/-- `b` is a supersolution of the reduced Laplacian at `q`: the potential `Σ b·D` is then a
    measure for legal firings off `q` -/
structure IsSupersolution (q : Fin n) (b : Fin n → Int) : Prop where
  nonneg : ∀ v, 0 ≤ b v
  zero : b q = 0
  one_le : ∀ v, v ≠ q → 1 ≤ ∑ w, (G.adj v w : Int) * (b v - b w)

/-- positive supersolution of the reduced Laplacian from a rank function:
    `b v = c^N − c^(N − rk v)` with `c = Δ + 1` -/
theorem supersolution (q : Fin n) (rk : Fin n → Nat) (N Δ : Nat)
    (hq : rk q = 0) (hN : ∀ v, rk v ≤ N) (hΔ : ∀ v, ∑ w, (G.adj v w : Int) ≤ Δ)
    (hdesc : ∀ v, v ≠ q → ∃ w, 0 < G.adj v w ∧ rk w < rk v) :
    ∃ b : Fin n → Int, (∀ v, 0 ≤ b v) ∧ b q = 0 ∧
      ∀ v, v ≠ q → 1 ≤ ∑ w, (G.adj v w : Int) * (b v - b w) := by
  obtain ⟨c, hc⟩ : ∃ c : Int, c = Δ + 1 := ⟨_, rfl⟩
  have hc1 : 1 ≤ c := by omega
  have hp : ∀ k, 0 ≤ c ^ k := fun k => pow_nonneg (by omega) k
  refine ⟨fun v => c ^ N - c ^ (N - rk v),
    fun v => sub_nonneg.mpr (pow_le_pow_right₀ hc1 (Nat.sub_le N (rk v))), by simp [hq], fun v hv => ?_⟩
  obtain ⟨w0, hm, hlt⟩ := hdesc v hv
  -- with `x = c^(N - rk v) ≥ 1`: the descending neighbour alone brings `c·x`, all of them take `≤ Δ·x`
  have h0 := one_le_pow₀ hc1 (n := N - rk v)
  have h1 : c * c ^ (N - rk v) ≤ G.adj v w0 * c ^ (N - rk w0) := by
    rw [← pow_succ']
    exact (pow_le_pow_right₀ hc1 (by have := hN v; omega)).trans
      (le_mul_of_one_le_left (hp _) (by exact_mod_cast hm))
  have h2 := mul_le_mul_of_nonneg_right (hΔ v) (hp (N - rk v))
  have h3 := Finset.single_le_sum (f := fun w => (G.adj v w : Int) * c ^ (N - rk w))
    (fun w _ => mul_nonneg (by positivity) (hp _)) (mem_univ w0)
  simp only [sub_sub_sub_cancel_left, mul_sub, Finset.sum_sub_distrib, ← Finset.sum_mul]
  subst hc
  linarith

theorem exists_supersolution (hc : G.Connected) (q : Fin n) :
    ∃ b : Fin n → Int, (∀ v, 0 ≤ b v) ∧ b q = 0 ∧
      ∀ v, v ≠ q → 1 ≤ ∑ w, (G.adj v w : Int) * (b v - b w) := by
  obtain ⟨rk, hq, hdesc⟩ := hc q
  refine supersolution G q rk (∑ v, rk v) (∑ v, ∑ w, G.adj v w) hq
    (fun v => Finset.single_le_sum (f := rk) (fun _ _ => Nat.zero_le _) (mem_univ v))
    (fun v => ?_) hdesc
  exact_mod_cast Finset.single_le_sum (f := fun v => ∑ w, G.adj v w) (fun _ _ => Nat.zero_le _)
    (mem_univ v)

theorem exists_isSupersolution (hc : G.Connected) (q : Fin n) : ∃ b, IsSupersolution G q b := by
  obtain ⟨b, h0, hq, h1⟩ := exists_supersolution G hc q
  exact ⟨b, h0, hq, h1⟩

theorem potential_drop (hsymm : ∀ v w, G.adj v w = G.adj w v) (q : Fin n) (b : Fin n → Int)
    (hb : ∀ v, v ≠ q → 1 ≤ ∑ w, (G.adj v w : Int) * (b v - b w))
    (S : Fin n → Bool) (hSq : S q = false) (D : Fin n → Int) :
    ∑ v, b v * applyScript G D (indicator S) v + ∑ v, indicator S v ≤ ∑ v, b v * D v := by
  rw [pair_applyScript G hsymm]
  have : ∑ v, indicator S v ≤ ∑ v, indicator S v * ∑ w, (G.adj v w : Int) * (b v - b w) := by
    refine Finset.sum_le_sum fun v _ => ?_
    unfold indicator
    split_ifs with hS
    · rw [one_mul]
      exact hb v fun e => by simp [e, hSq] at hS
    · rw [zero_mul]
  omega

variable {G} in
theorem IsSupersolution.potential_nonneg {q : Fin n} {b : Fin n → Int} (hb : IsSupersolution G q b)
    {D : Fin n → Int} (hnn : ∀ v, v ≠ q → 0 ≤ D v) : 0 ≤ ∑ v, b v * D v := by
  apply Finset.sum_nonneg; intro v _
  by_cases hv : v = q
  · subst hv; simp [hb.zero]
  · exact mul_nonneg (hb.nonneg v) (hnn v hv)

theorem legal_fire_step (hs : ∀ v w, G.adj v w = G.adj w v) {q : Fin n} {b : Fin n → Int}
    (hb : IsSupersolution G q b)
    {D : Fin n → Int} {S : Fin n → Bool} (hL : Legal G q D S) (hnn : ∀ v, v ≠ q → 0 ≤ D v) :
    (∀ v, v ≠ q → 0 ≤ fireSet G S D v) ∧ ∑ v, b v * fireSet G S D v < ∑ v, b v * D v := by
  constructor
  · intro v hv
    cases hS : S v
    · exact le_trans (hnn v hv) (le_fireSet_of_not_mem G S D hS)
    · have := hL.2.2 v hS
      rw [fireSet_mem G S D hS]; omega
  · rw [fireSet_eq G hs]
    have := potential_drop G hs q b hb.one_le S hL.2.1 D
    obtain ⟨v, hv⟩ := hL.1
    have h1 : indicator S v = 1 := if_pos hv
    have := h1 ▸ Finset.single_le_sum (f := indicator S) (fun w _ => by unfold indicator; split <;> omega)
      (mem_univ v)
    omega

/-- borrowing `σ = K·b` (firing `−σ`) clears all debt off q -/
theorem exists_clearing_script (hc : G.Connected) (q : Fin n) (D : Fin n → Int) :
    ∃ σ : Fin n → Int, (∀ v, 0 ≤ σ v) ∧ ∀ v, v ≠ q → 0 ≤ applyScript G D (fun w => -σ w) v := by
  obtain ⟨b, hb⟩ := exists_isSupersolution G hc q
  obtain ⟨K, hK0, hK⟩ : ∃ K : Int, 0 ≤ K ∧ ∀ v, -D v ≤ K :=
    ⟨∑ u, |D u|, Finset.sum_nonneg fun _ _ => abs_nonneg _, fun v => (neg_le_abs _).trans
      (Finset.single_le_sum (f := fun u => |D u|) (fun _ _ => abs_nonneg _) (mem_univ v))⟩
  refine ⟨fun v => K * b v, fun v => mul_nonneg hK0 (hb.nonneg v), fun v hv => ?_⟩
  have h1 := mul_le_mul_of_nonneg_left (hb.one_le v hv) hK0
  have h2 : applyScript G D (fun w => -(K * b w)) v
      = D v + K * ∑ w, (G.adj v w : Int) * (b v - b w) := by
    simp only [applyScript, Finset.mul_sum, sub_eq_add_neg (D v), ← Finset.sum_neg_distrib]
    exact congrArg _ (Finset.sum_congr rfl fun w _ => by ring)
  have := hK v
  rw [h2]
  linarith

/-- T7: clear the debt off q, then fire legal sets as long as there are any (induction on the
    potential `Σ b·D`) -/
theorem exists_qreduced (hG : G.WF) (hc : G.Connected) (q : Fin n) (D : Fin n → Int) :
    ∃ D', LinEq G D D' ∧ QReduced G q D' := by
  obtain ⟨b, hb⟩ := exists_isSupersolution G hc q
  obtain ⟨σ, -, hclear⟩ := exists_clearing_script G hc q D
  have key : ∀ D, (∀ v, v ≠ q → 0 ≤ D v) → ∃ D', LinEq G D D' ∧ QReduced G q D' := by
    intro D
    induction hm : (∑ v, b v * D v).toNat using Nat.strong_induction_on generalizing D with
    | _ m ih =>
      intro hnn
      by_cases hex : ∃ S, Legal G q D S
      · obtain ⟨S, hL⟩ := hex
        obtain ⟨hnn', hlt⟩ := legal_fire_step G hG.symm hb hL hnn
        obtain ⟨D', hle, hqr⟩ := ih _ (by have := hb.potential_nonneg hnn'; omega) _ rfl hnn'
        exact ⟨D', (fireSet_linEq G hG.symm S D).trans hle, hqr⟩
      · exact ⟨D, LinEq.refl G D, hnn, fun S hS => hex ⟨S, hS⟩⟩
  obtain ⟨D', hle, hqr⟩ := key _ hclear
  exact ⟨D', LinEq.trans ⟨_, rfl⟩ hle, hqr⟩

/-- T10 -/
theorem winnable_of_deg_ge_genus (hG : G.WF) (hc : G.Connected) (hn : 0 < n) (D : Fin n → Int)
    (h : G.genus ≤ deg D) : Winnable G D := by
  let q : Fin n := ⟨0, hn⟩
  obtain ⟨D', hle, hqr⟩ := exists_qreduced G hG hc q D
  rw [winnable_congr hle, qreduced_verdict G q D' hqr]
  by_contra hneg
  have hall := (burn_all_iff G q D').mpr hqr.2
  have h1 := deg_le_genus_sub_one hG q D' hall (by omega)
  have h2 := deg_linEq G hG.symm hle
  omega

end CF
