import ChipFiring.Spec.Basic
/-
  T1: linear equivalence is an equivalence relation, degree is invariant, and the model's chip
  moves (`lend`, `borrow`, `fireSet`) are applications of firing scripts.
-/
open Finset

namespace CF
variable {n : Nat} (G : Graph n)

theorem applyScript_const (D s : Fin n → Int) (c : Int) (h : ∀ v, s v = c) : applyScript G D s = D := by
  funext w; simp [applyScript, h]

theorem applyScript_zero (D : Fin n → Int) : applyScript G D (fun _ => 0) = D :=
  applyScript_const G D _ 0 fun _ => rfl

theorem applyScript_add (D s t : Fin n → Int) :
    applyScript G (applyScript G D s) t = applyScript G D (fun v => s v + t v) := by
  funext w
  simp only [applyScript]
  rw [sub_sub, ← Finset.sum_add_distrib]
  exact congrArg _ (Finset.sum_congr rfl fun v _ => by ring)

theorem applyScript_neg_cancel (D s : Fin n → Int) :
    applyScript G (applyScript G D s) (fun v => - s v) = D := by
  rw [applyScript_add]
  exact applyScript_const G D _ 0 fun v => add_neg_cancel (s v)

theorem foldl_applyScript (ss : List (Fin n → Int)) (D : Fin n → Int) :
    ss.foldl (applyScript G) D = applyScript G D ss.sum := by
  induction ss generalizing D with
  | nil => exact (applyScript_zero G D).symm
  | cons s ss ih => rw [List.foldl_cons, ih, applyScript_add, List.sum_cons]; rfl

theorem applyScript_mono_at (D s t : Fin n → Int) (u : Fin n) (hle : ∀ v, s v ≤ t v) (hu : s u = t u) :
    applyScript G D s u ≤ applyScript G D t u := by
  simp only [applyScript, hu]
  have : ∑ v, (G.adj u v : Int) * (t u - t v) ≤ ∑ v, (G.adj u v : Int) * (t u - s v) :=
    Finset.sum_le_sum fun v _ => mul_le_mul_of_nonneg_left (by have := hle v; omega) (by positivity)
  omega

theorem LinEq.refl (D : Fin n → Int) : LinEq G D D := ⟨fun _ => 0, (applyScript_zero G D).symm⟩

variable {G} in
theorem LinEq.symm {D D' : Fin n → Int} (h : LinEq G D D') : LinEq G D' D := by
  obtain ⟨s, rfl⟩ := h
  exact ⟨fun v => - s v, (applyScript_neg_cancel G D s).symm⟩

variable {G} in
theorem LinEq.trans {D D' D'' : Fin n → Int} (h : LinEq G D D') (h' : LinEq G D' D'') :
    LinEq G D D'' := by
  obtain ⟨s, rfl⟩ := h
  obtain ⟨t, rfl⟩ := h'
  exact ⟨_, applyScript_add G D s t⟩

theorem laplacian_selfAdjoint (hs : ∀ v w, G.adj v w = G.adj w v) (b s : Fin n → Int) :
    ∑ v, b v * ∑ w, (G.adj v w : Int) * (s v - s w) = ∑ v, s v * ∑ w, (G.adj v w : Int) * (b v - b w) := by
  simp only [Finset.mul_sum, mul_sub, Finset.sum_sub_distrib]
  congr 1
  · exact Finset.sum_congr rfl fun v _ => Finset.sum_congr rfl fun w _ => by ring
  · rw [Finset.sum_comm]
    exact Finset.sum_congr rfl fun v _ => Finset.sum_congr rfl fun w _ => by rw [hs w v]; ring

theorem pair_applyScript (hs : ∀ v w, G.adj v w = G.adj w v) (b D s : Fin n → Int) :
    ∑ v, b v * applyScript G D s v
      = ∑ v, b v * D v - ∑ v, s v * ∑ w, (G.adj v w : Int) * (b v - b w) := by
  rw [← laplacian_selfAdjoint G hs, ← Finset.sum_sub_distrib]
  exact Finset.sum_congr rfl fun v _ => by simp only [applyScript]; ring

theorem deg_applyScript (hs : ∀ v w, G.adj v w = G.adj w v) (D s : Fin n → Int) :
    deg (applyScript G D s) = deg D := by
  have := pair_applyScript G hs (fun _ => 1) D s
  simpa [deg] using this

theorem deg_linEq (hs : ∀ v w, G.adj v w = G.adj w v) {D D' : Fin n → Int} (h : LinEq G D D') :
    deg D' = deg D := by
  obtain ⟨s, rfl⟩ := h; exact deg_applyScript G hs D s

variable {G} in
theorem winnable_congr {D D' : Fin n → Int} (h : LinEq G D D') : Winnable G D ↔ Winnable G D' :=
  ⟨fun ⟨E, hE, he⟩ => ⟨E, h.symm.trans hE, he⟩, fun ⟨E, hE, he⟩ => ⟨E, h.trans hE, he⟩⟩

theorem Eff.winnable {D : Fin n → Int} (h : Eff D) : Winnable G D := ⟨D, LinEq.refl G D, h⟩

theorem effective_iff (D : Fin n → Int) : effective D = true ↔ Eff D := by
  rw [effective, allF_iff]; simp only [decide_eq_true_eq, Eff]

theorem not_winnable_of_deg_neg (hs : ∀ v w, G.adj v w = G.adj w v) {D : Fin n → Int}
    (h : deg D < 0) : ¬ Winnable G D := by
  rintro ⟨E, hE, he⟩
  have := deg_linEq G hs hE
  have h0 : 0 ≤ deg E := Finset.sum_nonneg fun v _ => he v
  omega

theorem eff_deg_zero {E : Fin n → Int} (hE : Eff E) (hd : deg E = 0) : E = fun _ => 0 :=
  funext fun v => (Finset.sum_eq_zero_iff_of_nonneg fun v _ => hE v).mp hd v (mem_univ v)

/-- in degree 0 the only effective divisor is 0, so winnable means equivalent to 0 -/
theorem winnable_deg_zero (hs : ∀ v w, G.adj v w = G.adj w v) (X : Fin n → Int)
    (h0 : deg X = 0) : Winnable G X ↔ LinEq G X (fun _ => 0) := by
  constructor
  · rintro ⟨E, hE, he⟩
    rw [← eff_deg_zero he (by rw [deg_linEq G hs hE, h0])]
    exact hE
  · intro h; exact ⟨_, h, fun _ => le_refl 0⟩

theorem Winnable.add_eff {D F : Fin n → Int} (h : Winnable G D) (hF : Eff F) :
    Winnable G (fun v => D v + F v) := by
  obtain ⟨E, ⟨s, rfl⟩, hE⟩ := h
  refine ⟨_, ⟨s, rfl⟩, fun v => ?_⟩
  have := hE v
  have := hF v
  simp only [applyScript] at *
  omega

theorem RankGeOne.add_eff {D F : Fin n → Int} (h : RankGeOne G D) (hF : Eff F) :
    RankGeOne G (fun v => D v + F v) := fun v => by
  have := Winnable.add_eff G (h v) hF
  convert this using 2; ring

variable {G} in
theorem LinEq.sub_right {D D' : Fin n → Int} (h : LinEq G D D') (E : Fin n → Int) :
    LinEq G (fun v => D v - E v) (fun v => D' v - E v) := by
  obtain ⟨s, rfl⟩ := h
  refine ⟨s, ?_⟩
  funext v; simp only [applyScript]; ring

/-- firing `−s` mirrors firing `s` around `D`; so does borrowing with respect to lending -/
theorem applyScript_neg (D s : Fin n → Int) (w : Fin n) :
    applyScript G D (fun v => - s v) w = 2 * D w - applyScript G D s w := by
  simp only [applyScript]
  rw [show ∑ v, (G.adj w v : Int) * (- s w - - s v) = - ∑ v, (G.adj w v : Int) * (s w - s v) by
    rw [← Finset.sum_neg_distrib]; exact Finset.sum_congr rfl fun v _ => by ring]
  ring

variable {G} in
theorem LinEq.rsub {D D' : Fin n → Int} (h : LinEq G D D') (F : Fin n → Int) :
    LinEq G (fun v => F v - D v) (fun v => F v - D' v) := by
  obtain ⟨s, rfl⟩ := h
  refine ⟨fun v => - s v, funext fun w => ?_⟩
  rw [applyScript_neg]
  simp only [applyScript]
  ring

theorem linEq_sub_zero (A B : Fin n → Int) :
    LinEq G (fun v => A v - B v) (fun _ => 0) ↔ LinEq G A B := by
  constructor
  · intro h
    simpa using h.sub_right fun v => - B v
  · intro h
    simpa using h.sub_right B

theorem deg_add (D E : Fin n → Int) : deg (fun v => D v + E v) = deg D + deg E := Finset.sum_add_distrib
theorem deg_sub (D E : Fin n → Int) : deg (fun v => D v - E v) = deg D - deg E := Finset.sum_sub_distrib _ _
theorem deg_neg (D : Fin n → Int) : deg (fun v => - D v) = - deg D := Finset.sum_neg_distrib _
theorem deg_smul (k : Int) (D : Fin n → Int) : deg (fun v => k * D v) = k * deg D := (Finset.mul_sum _ _ _).symm
theorem deg_chipAt (v : Fin n) : deg (chipAt v) = 1 := by simp [deg, chipAt]

theorem eff_pile (v : Fin n) {c : Int} (hc : 0 ≤ c) : Eff fun w => c * chipAt v w := fun w => by
  simp only [chipAt]; split <;> omega

theorem deg_pile (v : Fin n) (c : Int) : deg (fun w => c * chipAt v w) = c := by
  rw [deg_smul, deg_chipAt, mul_one]

/-- pile the missing chips on one vertex -/
theorem exists_eff_pad (hn : 0 < n) {E : Fin n → Int} (hE : Eff E) {k : Int} (hd : deg E ≤ k) :
    ∃ F, Eff F ∧ Eff (fun v => E v + F v) ∧ deg (fun v => E v + F v) = k := by
  have hF := eff_pile (⟨0, hn⟩ : Fin n) (c := k - deg E) (by omega)
  exact ⟨_, hF, fun v => add_nonneg (hE v) (hF v), by rw [deg_add, deg_pile]; ring⟩

theorem rowSum_cast (v : Fin n) : ((G.rowSum v : Nat) : Int) = ∑ u, (G.adj v u : Int) := by
  unfold Graph.rowSum; simp

theorem lend_eq (hs : ∀ v w, G.adj v w = G.adj w v) (D : Fin n → Int) (v : Fin n) :
    lend G D v = applyScript G D (chipAt v) := by
  funext w
  have key : ∀ c : Int, ∑ x, (G.adj w x : Int) * (c - if x = v then 1 else 0)
      = c * ∑ x, (G.adj w x : Int) - (G.adj w v : Int) := by
    intro c
    simp only [mul_sub, Finset.sum_sub_distrib, mul_ite, mul_one, mul_zero, Finset.sum_ite_eq', mem_univ, if_true,
      ← Finset.sum_mul, mul_comm c]
  simp only [lend, applyScript, chipAt, rowSum_cast, key, hs v w]
  split
  · rename_i h; subst h; ring
  · ring

theorem borrow_eq (hs : ∀ v w, G.adj v w = G.adj w v) (D : Fin n → Int) (v : Fin n) :
    borrow G D v = applyScript G D (fun w => - chipAt v w) := by
  funext w
  rw [applyScript_neg, ← lend_eq G hs]
  simp only [borrow, lend]
  ring

def indicator (S : Fin n → Bool) : Fin n → Int := fun v => if S v then 1 else 0

theorem fireSet_eq (hs : ∀ v w, G.adj v w = G.adj w v) (S : Fin n → Bool) (D : Fin n → Int) :
    fireSet G S D = applyScript G D (indicator S) := by
  funext w
  simp only [fireSet, applyScript, indicator, sumZ_eq]
  cases S w
  · -- outside S: what comes in along the edges from S
    rw [if_neg Bool.false_ne_true, if_neg Bool.false_ne_true, ← sub_neg_eq_add, ← Finset.sum_neg_distrib]
    exact congrArg _ (Finset.sum_congr rfl fun u _ => by cases S u <;> simp [hs w u])
  · rw [if_pos rfl, if_pos rfl]
    exact congrArg _ (Finset.sum_congr rfl fun u _ => by cases S u <;> simp)

theorem fireSet_mem (S : Fin n → Bool) (D : Fin n → Int) {v : Fin n} (hv : S v = true) :
    fireSet G S D v = D v - outdeg G S v := by
  simp [fireSet, hv, outdeg]

theorem le_fireSet_of_not_mem (S : Fin n → Bool) (D : Fin n → Int) {v : Fin n} (hv : S v = false) :
    D v ≤ fireSet G S D v := by
  simp only [fireSet, hv, Bool.false_eq_true, if_false, sumZ_eq]
  have : 0 ≤ ∑ u, if S u = true then (G.adj u v : Int) else 0 :=
    Finset.sum_nonneg fun u _ => by split <;> positivity
  omega

theorem lend_linEq (hs : ∀ v w, G.adj v w = G.adj w v) (D : Fin n → Int) (v : Fin n) :
    LinEq G D (lend G D v) := ⟨_, lend_eq G hs D v⟩
theorem borrow_linEq (hs : ∀ v w, G.adj v w = G.adj w v) (D : Fin n → Int) (v : Fin n) :
    LinEq G D (borrow G D v) := ⟨_, borrow_eq G hs D v⟩
theorem fireSet_linEq (hs : ∀ v w, G.adj v w = G.adj w v) (S : Fin n → Bool) (D : Fin n → Int) :
    LinEq G D (fireSet G S D) := ⟨_, fireSet_eq G hs S D⟩

end CF
