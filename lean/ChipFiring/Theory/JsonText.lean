import ChipFiring.Model.JsonText
import ChipFiring.Theory.Txt
/-
  Every proper, non-empty prefix of the JSON text written for a dict is still inside a bracket:
  the truncation clause of C15 for the text `json.dump(…, indent=4)` produces.  And the text is ASCII.
-/
namespace CF.JsonText

/-- outside a string at depth `d`, no unmatched closing bracket so far -/
def st (d : Nat) : Sc := ⟨d, false, false, false⟩

theorem scan_append (s : Sc) (a b : Str) : scan s (a ++ b) = scan (scan s a) b := List.foldl_append

theorem scan_cons (s : Sc) (c : Char) (t : Str) : scan s (c :: t) = scan (scStep s c) t := rfl
theorem scan_nil (s : Sc) : scan s [] = s := rfl

theorem forall_prefix_nil {Q : Str → Prop} : (∀ p, p <+: [] → Q p) ↔ Q [] :=
  ⟨fun h => h [] (List.prefix_refl _), fun h _ hp => List.prefix_nil.mp hp ▸ h⟩

theorem forall_prefix_cons {Q : Str → Prop} {c : Char} {t : Str} :
    (∀ p, p <+: c :: t → Q p) ↔ Q [] ∧ ∀ p, p <+: t → Q (c :: p) := by
  simp only [List.prefix_cons_iff]
  exact ⟨fun h => ⟨h [] (.inl rfl), fun p hp => h _ (.inr ⟨p, rfl, hp⟩)⟩,
    fun h p hp => hp.elim (fun e => e ▸ h.1) fun ⟨q, e, hq⟩ => e ▸ h.2 q hq⟩

theorem forall_prefix_append {Q : Str → Prop} {a b : Str} :
    (∀ p, p <+: a ++ b → Q p) ↔ (∀ p, p <+: a → Q p) ∧ ∀ q, q <+: b → Q (a ++ q) := by
  refine ⟨fun h => ⟨fun p hp => h p (hp.trans (List.prefix_append a b)),
    fun q hq => h _ ((List.prefix_append_right_inj a).mpr hq)⟩, fun h p hp => ?_⟩
  rcases List.prefix_or_prefix_of_prefix hp (List.prefix_append a b) with h1 | ⟨q, rfl⟩
  · exact h.1 p h1
  · exact h.2 q ((List.prefix_append_right_inj a).mp hp)

/-- the text returns to the state it started in and never drops below its starting depth -/
def Bal (d : Nat) (t : Str) : Prop :=
  scan (st d) t = st d ∧ ∀ p, p <+: t → d ≤ (scan (st d) p).depth ∧ (scan (st d) p).under = false

/-- … and strictly inside a bracket at every proper non-empty prefix -/
def BalC (d : Nat) (t : Str) : Prop :=
  Bal d t ∧ ∀ p, p <+: t → p ≠ [] → p ≠ t → d + 1 ≤ (scan (st d) p).depth

theorem Bal.nil (d : Nat) : Bal d [] := ⟨rfl, forall_prefix_nil.mpr ⟨Nat.le_refl _, rfl⟩⟩

theorem Bal.append {d : Nat} {a b : Str} (ha : Bal d a) (hb : Bal d b) : Bal d (a ++ b) :=
  ⟨by rw [scan_append, ha.1, hb.1],
    forall_prefix_append.mpr ⟨ha.2, fun q hq => by rw [scan_append, ha.1]; exact hb.2 q hq⟩⟩

/-- characters that the scanner ignores outside strings -/
def plainC (c : Char) : Prop := c ≠ '"' ∧ c ≠ '{' ∧ c ≠ '[' ∧ c ≠ '}' ∧ c ≠ ']'

theorem scStep_plain (d : Nat) (c : Char) (h : plainC c) : scStep (st d) c = st d := by
  obtain ⟨h1, h2, h3, h4, h5⟩ := h
  simp [scStep, st, h1, h2, h3, h4, h5]

theorem scan_plain (d : Nat) (t : Str) (h : ∀ c ∈ t, plainC c) : scan (st d) t = st d := by
  induction t with
  | nil => rfl
  | cons c cs ih =>
    rw [scan_cons, scStep_plain d c (h c List.mem_cons_self)]
    exact ih (fun x hx => h x (List.mem_cons_of_mem _ hx))

theorem Bal.plain (d : Nat) (t : Str) (h : ∀ c ∈ t, plainC c) : Bal d t := by
  refine ⟨scan_plain d t h, ?_⟩
  intro p hp
  rw [scan_plain d p (fun c hc => h c (hp.subset hc))]
  exact ⟨Nat.le_refl _, rfl⟩

theorem repr_plain (k : Int) : ∀ c ∈ k.repr.toList, plainC c ∧ c.toNat < 128 := by
  intro c hc
  rcases CF.Txt.chars_of_repr k c hc with h | rfl
  · have : 48 ≤ c.toNat ∧ c.toNat ≤ 57 := Char.isDigit_iff_toNat.mp h
    refine ⟨⟨?_, ?_, ?_, ?_, ?_⟩, by omega⟩ <;> (rintro rfl; exact absurd h (by decide))
  · unfold plainC; decide

/-- inside a string at depth `d`; `e`: the last character was an unescaped backslash -/
def stS (d : Nat) (e : Bool) : Sc := ⟨d, true, e, false⟩

theorem hexDigit_spec : ∀ k, k < 16 → hexDigit k ≠ '"' ∧ hexDigit k ≠ '\\' ∧ (hexDigit k).toNat < 128 := by decide

theorem mem_hex4 {c : Char} {n : Nat} (h : c ∈ hex4 n) : ∃ k, k < 16 ∧ c = hexDigit k := by
  simp only [hex4, List.mem_cons, List.not_mem_nil, or_false] at h
  rcases h with rfl | rfl | rfl | rfl <;> exact ⟨_, Nat.mod_lt _ (by decide), rfl⟩

theorem scStep_inStr (d : Nat) (c : Char) (h1 : c ≠ '"') (h2 : c ≠ '\\') : scStep (stS d false) c = stS d false := by
  simp [scStep, stS, h1, h2]

theorem scStep_esc (d : Nat) (c : Char) : scStep (stS d true) c = stS d false := by
  simp [scStep, stS]

theorem scStep_bs (d : Nat) : scStep (stS d false) '\\' = stS d true := by
  simp [scStep, stS]

def InS (d : Nat) (s : Sc) : Prop := ∃ e, s = stS d e

/-- an escape unit: scanning it inside a string stays inside the string, at every prefix -/
def Unit (u : Str) : Prop := ∀ d, scan (stS d false) u = stS d false ∧ ∀ p, p <+: u → InS d (scan (stS d false) p)

theorem unit_nil : Unit [] := fun _ => ⟨rfl, forall_prefix_nil.mpr ⟨false, rfl⟩⟩

theorem Unit.append {a b : Str} (ha : Unit a) (hb : Unit b) : Unit (a ++ b) := fun d =>
  ⟨by rw [scan_append, (ha d).1, (hb d).1],
    forall_prefix_append.mpr ⟨(ha d).2, fun q hq => by rw [scan_append, (ha d).1]; exact (hb d).2 q hq⟩⟩

theorem unit_single (c : Char) (h1 : c ≠ '"') (h2 : c ≠ '\\') : Unit [c] := by
  intro d
  simp only [forall_prefix_cons, forall_prefix_nil, scan_cons, scan_nil, scStep_inStr d c h1 h2, true_and]
  exact ⟨⟨false, rfl⟩, ⟨false, rfl⟩⟩

theorem unit_pair (x : Char) : Unit ['\\', x] := by
  intro d
  simp only [forall_prefix_cons, forall_prefix_nil, scan_cons, scan_nil, scStep_bs, scStep_esc, true_and]
  exact ⟨⟨false, rfl⟩, ⟨true, rfl⟩, ⟨false, rfl⟩⟩

theorem unit_plain (t : Str) (h : ∀ c ∈ t, c ≠ '"' ∧ c ≠ '\\') : Unit t := by
  induction t with
  | nil => exact unit_nil
  | cons c cs ih =>
    exact (unit_single c (h c List.mem_cons_self).1 (h c List.mem_cons_self).2).append
      (ih fun x hx => h x (List.mem_cons_of_mem _ hx))

theorem unit_uEsc (n : Nat) : Unit (uEsc n) :=
  (unit_pair 'u').append (unit_plain (hex4 n) fun c hc => by
    obtain ⟨k, hk, rfl⟩ := mem_hex4 hc
    exact ⟨(hexDigit_spec k hk).1, (hexDigit_spec k hk).2.1⟩)

/-- the seven two-character escapes: escape letter, character -/
def shortTable : List (Char × Char) :=
  [('\\', '\\'), ('"', '"'), ('b', '\x08'), ('f', '\x0c'), ('n', '\n'), ('r', '\r'), ('t', '\t')]

/-- the four forms of `escChar c` -/
inductive EscShape (c : Char) : Str → Prop
  | short (x : Char) (h : (x, c) ∈ shortTable) : EscShape c ['\\', x]
  | plain (h : 32 ≤ c.toNat ∧ c.toNat ≤ 126) (hq : c ≠ '"') (hb : c ≠ '\\') : EscShape c [c]
  | bmp (h : c.toNat < 65536) : EscShape c (uEsc c.toNat)
  | pair (h : 65536 ≤ c.toNat) :
      EscShape c (uEsc (55296 + (c.toNat - 65536) / 1024 % 1024) ++ uEsc (56320 + (c.toNat - 65536) % 1024))

/-- (`split` on the whole cascade is slow to check: the conditions are peeled off one at a time) -/
theorem escChar_shape (c : Char) : EscShape c (escChar c) := by
  by_cases hs : c ∈ shortTable.map (·.2)
  · simp only [shortTable, List.map_cons, List.map_nil, List.mem_cons, List.not_mem_nil, or_false] at hs
    rcases hs with rfl | rfl | rfl | rfl | rfl | rfl | rfl <;> exact .short _ (by decide)
  · simp only [shortTable, List.map_cons, List.map_nil, List.mem_cons, List.not_mem_nil, or_false, not_or] at hs
    obtain ⟨h1, h2, h3, h4, h5, h6, h7⟩ := hs
    rw [escChar, if_neg h1, if_neg h2, if_neg h3, if_neg h4, if_neg h5, if_neg h6, if_neg h7]
    by_cases h8 : 32 ≤ c.toNat ∧ c.toNat ≤ 126
    · rw [if_pos h8]; exact .plain h8 h2 h1
    rw [if_neg h8]
    by_cases h9 : c.toNat < 65536
    · rw [if_pos h9]; exact .bmp h9
    · rw [if_neg h9]; exact .pair (Nat.le_of_not_lt h9)

theorem EscShape.unit {c : Char} {e : Str} (h : EscShape c e) : Unit e := by
  cases h with
  | short x _ => exact unit_pair x
  | plain _ hq hb => exact unit_single c hq hb
  | bmp _ => exact unit_uEsc _
  | pair _ => exact (unit_uEsc _).append (unit_uEsc _)

theorem unit_escChar (c : Char) : Unit (escChar c) := (escChar_shape c).unit

theorem unit_body (s : Str) : Unit (s.flatMap escChar) := by
  induction s with
  | nil => exact unit_nil
  | cons c cs ih => rw [List.flatMap_cons]; exact Unit.append (unit_escChar c) ih

theorem Bal.quote (d : Nat) (s : Str) : Bal d (quote s) := by
  have hb := unit_body s d
  have hopen : scStep (st d) '"' = stS d false := by simp [scStep, st, stS]
  have hclose : scStep (stS d false) '"' = st d := by simp [scStep, st, stS]
  simp only [Bal, JsonText.quote, List.cons_append, forall_prefix_cons, forall_prefix_append, forall_prefix_nil,
    scan_cons, scan_append, scan_nil, hopen, hb.1, hclose, true_and]
  refine ⟨⟨Nat.le_refl _, rfl⟩, fun p hp => ?_, ⟨Nat.le_refl _, rfl⟩, ⟨Nat.le_refl _, rfl⟩⟩
  obtain ⟨e, he⟩ := hb.2 p hp
  rw [he]
  exact ⟨Nat.le_refl _, rfl⟩

theorem scStep_open (d : Nat) (c : Char) (h : c = '{' ∨ c = '[') : scStep (st d) c = st (d + 1) := by
  rcases h with rfl | rfl <;> simp [scStep, st]

theorem scStep_close (d : Nat) (c : Char) (h : c = '}' ∨ c = ']') : scStep (st (d + 1)) c = st d := by
  rcases h with rfl | rfl <;> simp [scStep, st]

theorem BalC.wrap (d : Nat) (o c : Char) (ho : o = '{' ∨ o = '[') (hc : c = '}' ∨ c = ']') (t : Str)
    (ht : Bal (d + 1) t) : BalC d (o :: t ++ [c]) := by
  -- two clauses (never below depth `d`; strictly inside at proper non-empty prefixes), each over
  -- the four kinds of prefix: empty, `o` and a prefix of `t`, all but the closing bracket, everything
  simp only [BalC, Bal, List.cons_append, forall_prefix_cons, forall_prefix_append, forall_prefix_nil,
    scan_cons, scan_append, scan_nil, scStep_open d o ho, ht.1, scStep_close d c hc, List.append_nil, true_and]
  refine ⟨⟨⟨Nat.le_refl _, rfl⟩, fun p hp => ⟨Nat.le_of_succ_le (ht.2 p hp).1, (ht.2 p hp).2⟩,
    ⟨Nat.le_succ _, rfl⟩, ⟨Nat.le_refl _, rfl⟩⟩,
    fun h => absurd rfl h, fun q hq _ _ => (ht.2 q hq).1, fun _ _ => Nat.le_refl _, fun _ h => absurd rfl h⟩

/-- the grammar of the written text: strings, texts without quotes or brackets (integers, separators,
    indentation), bracketed texts; what is proved about the text goes by induction over it -/
inductive Emitted : Str → Prop
  | nil : Emitted []
  | append {a b : Str} : Emitted a → Emitted b → Emitted (a ++ b)
  | quote (s : Str) : Emitted (quote s)
  | plain (t : Str) : (∀ c ∈ t, plainC c ∧ c.toNat < 128) → Emitted t
  | wrap (o c : Char) (ho : o = '{' ∨ o = '[') (hc : c = '}' ∨ c = ']') (t : Str) : Emitted t → Emitted (o :: t ++ [c])

theorem emitted_nl (ind lvl : Nat) : Emitted (nl ind lvl) := by
  refine .plain _ fun c hc => ?_
  simp only [nl, List.mem_cons, List.mem_replicate] at hc
  rcases hc with rfl | ⟨-, rfl⟩ <;> (unfold plainC; decide)

theorem emitted_comma : Emitted [','] := .plain _ (by unfold plainC; decide)
theorem emitted_colon : Emitted [':', ' '] := .plain _ (by unfold plainC; decide)

mutual
  theorem ser_emitted (ind lvl : Nat) : (v : JV) → Emitted (ser ind lvl v)
    | .str s => by rw [ser]; exact .quote s
    | .int k => by rw [ser]; exact .plain _ (repr_plain k)
    | .arr [] => by rw [ser]; exact .wrap '[' ']' (.inr rfl) (.inr rfl) [] .nil
    | .arr (x :: xs) => by
      rw [ser]
      exact .wrap '[' ']' (.inr rfl) (.inr rfl) _ ((((emitted_nl _ _).append (ser_emitted ind (lvl + 1) x)).append
        (serItems_emitted ind (lvl + 1) xs)).append (emitted_nl _ _))
    | .obj l => by
      obtain ⟨t, h, ht⟩ := obj_emitted ind lvl l
      rw [h]; exact .wrap '{' '}' (.inl rfl) (.inl rfl) t ht
  theorem obj_emitted (ind lvl : Nat) : (l : List (Str × JV)) → ∃ t, ser ind lvl (.obj l) = '{' :: t ++ ['}'] ∧ Emitted t
    | [] => ⟨[], by rw [ser]; rfl, .nil⟩
    | (k, v) :: kvs => ⟨_, by rw [ser]; rfl,
        (((((emitted_nl _ _).append (.quote k)).append emitted_colon).append (ser_emitted ind (lvl + 1) v)).append
          (serMembers_emitted ind (lvl + 1) kvs)).append (emitted_nl _ _)⟩
  theorem serItems_emitted (ind lvl : Nat) : (l : List JV) → Emitted (serItems ind lvl l)
    | [] => by rw [serItems]; exact .nil
    | x :: xs => by
      rw [serItems]
      exact ((emitted_comma.append (emitted_nl ind lvl)).append (ser_emitted ind lvl x)).append (serItems_emitted ind lvl xs)
  theorem serMembers_emitted (ind lvl : Nat) : (l : List (Str × JV)) → Emitted (serMembers ind lvl l)
    | [] => by rw [serMembers]; exact .nil
    | (k, v) :: kvs => by
      rw [serMembers]
      exact ((((emitted_comma.append (emitted_nl ind lvl)).append (.quote k)).append emitted_colon).append
        (ser_emitted ind lvl v)).append (serMembers_emitted ind lvl kvs)
end

theorem Emitted.bal {t : Str} (h : Emitted t) : ∀ d, Bal d t := by
  induction h with
  | nil => exact Bal.nil
  | append _ _ iha ihb => exact fun d => (iha d).append (ihb d)
  | quote s => exact fun d => Bal.quote d s
  | plain t h => exact fun d => Bal.plain d t fun c hc => (h c hc).1
  | wrap o c ho hc t _ ih => exact fun d => (BalC.wrap d o c ho hc t (ih (d + 1))).1

theorem ser_bal (ind lvl d : Nat) : (v : JV) → Bal d (ser ind lvl v) := fun v => (ser_emitted ind lvl v).bal d
theorem serItems_bal (ind lvl d : Nat) : (l : List JV) → Bal d (serItems ind lvl l) :=
  fun l => (serItems_emitted ind lvl l).bal d
theorem serMembers_bal (ind lvl d : Nat) : (l : List (Str × JV)) → Bal d (serMembers ind lvl l) :=
  fun l => (serMembers_emitted ind lvl l).bal d

theorem dumps_obj_balC (ind : Nat) (l : List (Str × JV)) : BalC 0 (dumps ind (.obj l)) := by
  obtain ⟨t, h, ht⟩ := obj_emitted ind 0 l
  rw [dumps, h]; exact BalC.wrap 0 '{' '}' (.inl rfl) (.inl rfl) t (ht.bal 1)

theorem openAtEnd_eq (t : Str) : openAtEnd t = (decide (1 ≤ (scan (st 0) t).depth) || (scan (st 0) t).inStr) := rfl

/-- with `ensure_ascii` every character of the written text is below 128: a byte prefix of the
    file is a character prefix of the text -/
def Ascii (t : Str) : Prop := ∀ c ∈ t, c.toNat < 128

theorem Ascii.append {a b : Str} (ha : Ascii a) (hb : Ascii b) : Ascii (a ++ b) :=
  List.forall_mem_append.mpr ⟨ha, hb⟩

theorem Ascii.cons {c : Char} {t : Str} (hc : c.toNat < 128) (ht : Ascii t) : Ascii (c :: t) :=
  List.forall_mem_cons.mpr ⟨hc, ht⟩

theorem ascii_nil : Ascii [] := fun _ h => nomatch h

theorem ascii_uEsc (n : Nat) : Ascii (uEsc n) := by
  refine .cons (by decide) (.cons (by decide) fun c hc => ?_)
  obtain ⟨k, hk, rfl⟩ := mem_hex4 hc
  exact (hexDigit_spec k hk).2.2

theorem shortTable_ascii : ∀ p ∈ shortTable, p.1.toNat < 128 := by decide

theorem EscShape.ascii {c : Char} {e : Str} (h : EscShape c e) : Ascii e := by
  cases h with
  | short x hx => exact .cons (by decide) (.cons (shortTable_ascii _ hx) ascii_nil)
  | plain h _ _ => exact .cons (by omega) ascii_nil
  | bmp _ => exact ascii_uEsc _
  | pair _ => exact (ascii_uEsc _).append (ascii_uEsc _)

theorem ascii_quote (s : Str) : Ascii (quote s) := by
  refine Ascii.append (Ascii.cons (by decide) fun c hc => ?_) (Ascii.cons (by decide) ascii_nil)
  obtain ⟨a, -, ha⟩ := List.mem_flatMap.mp hc
  exact (escChar_shape a).ascii c ha

theorem Emitted.ascii {t : Str} (h : Emitted t) : Ascii t := by
  induction h with
  | nil => exact ascii_nil
  | append _ _ iha ihb => exact iha.append ihb
  | quote s => exact ascii_quote s
  | plain t h => exact fun c hc => (h c hc).2
  | wrap o c ho hc t _ ih =>
    exact (Ascii.cons (by rcases ho with rfl | rfl <;> decide) ih).append
      (Ascii.cons (by rcases hc with rfl | rfl <;> decide) ascii_nil)

theorem serItems_ascii (ind lvl : Nat) : (l : List JV) → Ascii (serItems ind lvl l) :=
  fun l => (serItems_emitted ind lvl l).ascii
theorem serMembers_ascii (ind lvl : Nat) : (l : List (Str × JV)) → Ascii (serMembers ind lvl l) :=
  fun l => (serMembers_emitted ind lvl l).ascii

end CF.JsonText
