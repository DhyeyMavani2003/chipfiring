import ChipFiring.Theory.Reduced
import ChipFiring.Model.CertCheck
/-
  T9: the divisor of an acyclic orientation (in-degree minus one) is unwinnable; reversal of a full
  acyclic orientation; the in-degree sum of a full orientation is the edge total; whatever lies below
  such a divisor is unwinnable (`unwinnable_of_le_acyclic`), which is what the certificate checker
  `certOK` accepts.
-/
open Finset

namespace CF
variable {n : Nat}

/-- in an acyclic orientation the earliest vertex of a set receives edges from outside the set only -/
theorem indeg_le_outdeg_of_first (G : Graph n) (hs : ∀ v w, G.adj v w = G.adj w v)
    (dir : Fin n → Fin n → Bool) (pos : Fin n → Nat)
    (hacyc : ∀ u v, dir u v = true → 0 < G.adj u v → pos u < pos v)
    (S : Fin n → Bool) (v : Fin n) (hfirst : ∀ w, S w = true → pos v ≤ pos w) :
    indeg G dir v ≤ outdeg G S v := by
  unfold indeg outdeg
  refine Finset.sum_le_sum fun w _ => ?_
  rw [hs v w]
  split_ifs with hd hw
  · exact_mod_cast (Nat.eq_zero_of_not_pos fun hp => (hfirst w hw).not_gt (hacyc w v hd hp)).le
  · exact le_rfl
  · exact le_rfl
  · exact Int.natCast_nonneg _

/-- T9: among the vertices where the script is largest, the earliest one would have to pay for all
    its in-edges -/
theorem acyclic_unwinnable (G : Graph n) (hs : ∀ v w, G.adj v w = G.adj w v) (hn : 0 < n)
    (dir : Fin n → Fin n → Bool) (h : OAcyclic G dir) :
    ¬ Winnable G (fun v => indeg G dir v - 1) := by
  obtain ⟨pos, hacyc⟩ := h
  rintro ⟨E, ⟨s, rfl⟩, hE⟩
  obtain ⟨vmax, -, hmax⟩ := Finset.exists_max_image (Finset.univ : Finset (Fin n)) s ⟨⟨0, hn⟩, mem_univ _⟩
  obtain ⟨v, hvS, hvmin⟩ := Finset.exists_min_image (Finset.univ.filter fun v => s v = s vmax) pos
    ⟨vmax, by simp⟩
  have hv : s v = s vmax := by simpa using hvS
  have h1 := outdeg_top_le G s v (hv ▸ fun w => hmax w (mem_univ w))
  have h2 := indeg_le_outdeg_of_first G hs dir pos hacyc (fun w => decide (s w = s v)) v
    (fun w hw => hvmin w (by simpa [hv] using hw))
  have h3 := hE v
  simp only [applyScript] at h3
  omega

/-- what a certificate (nothing enters q, strict bound off q) gives once q is in debt: the hypothesis
    of `unwinnable_of_le_acyclic` -/
theorem dominated_of_bound {D ind : Fin n → Int} {q : Fin n} (h0 : ind q = 0)
    (hb : ∀ v, v ≠ q → D v < ind v) (hq : D q < 0) (v : Fin n) : D v ≤ ind v - 1 := by
  by_cases hv : v = q
  · subst hv; omega
  · have := hb v hv; omega

theorem unwinnable_of_le_acyclic (G : Graph n) (hs : ∀ v w, G.adj v w = G.adj w v) (hn : 0 < n)
    (dir : Fin n → Fin n → Bool) (hac : OAcyclic G dir) (D : Fin n → Int)
    (hdom : ∀ v, D v ≤ indeg G dir v - 1) : ¬ Winnable G D := by
  intro hw
  have := Winnable.add_eff G hw (F := fun v => (indeg G dir v - 1) - D v)
    fun v => by have := hdom v; simp only; omega
  simp only [add_sub_cancel] at this
  exact acyclic_unwinnable G hs hn dir hac this

def revDir (dir : Fin n → Fin n → Bool) : Fin n → Fin n → Bool := fun u v => dir v u

theorem revDir_full (G : Graph n) (dir : Fin n → Fin n → Bool) (hf : OFull G dir) : OFull G (revDir dir) := by
  intro u v huv
  have := hf u v huv
  simp only [revDir]
  rw [this]; simp

theorem revDir_acyclic (G : Graph n) (hs : ∀ v w, G.adj v w = G.adj w v) (dir : Fin n → Fin n → Bool)
    (ha : OAcyclic G dir) : OAcyclic G (revDir dir) := by
  obtain ⟨pos, hp⟩ := ha
  refine ⟨fun v => (∑ w, pos w) - pos v, ?_⟩
  intro u v hd huv
  have h1 := hp v u hd (by rw [hs v u]; exact huv)
  have h2 : pos u ≤ ∑ w, pos w := Finset.single_le_sum (f := pos) (fun _ _ => Nat.zero_le _) (mem_univ u)
  simp only
  omega

/-- in a full orientation every edge bundle enters exactly one of its two ends -/
theorem indeg_add_rev (G : Graph n) (hs : ∀ v w, G.adj v w = G.adj w v)
    {dir : Fin n → Fin n → Bool} (hf : OFull G dir) (v : Fin n) :
    indeg G dir v + indeg G (revDir dir) v = ∑ w, (G.adj v w : Int) := by
  unfold indeg revDir
  rw [← Finset.sum_add_distrib]
  refine Finset.sum_congr rfl fun w _ => ?_
  rw [hs v w]
  rcases Nat.eq_zero_or_pos (G.adj w v) with h0 | hm
  · simp [h0]
  · cases hd : dir v w <;> simp [hf w v hm, hd]

theorem sum_indeg_rev (G : Graph n) (hs : ∀ v w, G.adj v w = G.adj w v) (dir : Fin n → Fin n → Bool) :
    ∑ v, indeg G (revDir dir) v = ∑ v, indeg G dir v := by
  unfold indeg revDir
  rw [Finset.sum_comm]
  apply Finset.sum_congr rfl; intro v _
  apply Finset.sum_congr rfl; intro w _
  rw [hs v w]

theorem sum_indeg_full (G : Graph n) (hG : G.WF) {dir : Fin n → Fin n → Bool} (hf : OFull G dir) :
    ∑ v, indeg G dir v = (G.total : Int) := by
  have h1 : ∑ v, (indeg G dir v + indeg G (revDir dir) v) = ∑ v, ∑ w, (G.adj v w : Int) :=
    Finset.sum_congr rfl fun v _ => indeg_add_rev G hG.symm hf v
  rw [Finset.sum_add_distrib, sum_indeg_rev G hG.symm dir, hG.sum_adj] at h1
  omega

theorem sum_indeg_sub_one (G : Graph n) (hG : G.WF) {dir : Fin n → Fin n → Bool} (hf : OFull G dir) :
    ∑ v, (indeg G dir v - 1) = G.genus - 1 := by
  rw [Finset.sum_sub_distrib, sum_indeg_full G hG hf, Finset.sum_const, Finset.card_univ, Fintype.card_fin,
    Graph.genus, nsmul_one]
  ring

theorem canonical_deg (G : Graph n) (hG : G.WF) : deg (canonical G) = 2 * G.genus - 2 := by
  unfold deg canonical
  rw [Finset.sum_sub_distrib, hG.sum_adj, Finset.sum_const, Finset.card_univ, Fintype.card_fin, Graph.genus]
  simp only [nsmul_eq_mul]
  ring

/-! the certificate checker `certOK` accepts only what the certificate theorems above ask for -/

theorem indegL_eq (G : Graph n) (dir : Fin n → Fin n → Bool) (v : Fin n) : indegL G dir v = indeg G dir v := by
  unfold indegL indeg; rw [sumZ_eq]

theorem certOK_sound (G : Graph n) {q : Fin n} {D : Fin n → Int} {dir : Fin n → Fin n → Bool} {pos : Fin n → Nat}
    (h : certOK G q D dir pos = true) :
    OFull G dir ∧ OAcyclic G dir ∧ indeg G dir q = 0 ∧ ∀ v, v ≠ q → D v < indeg G dir v := by
  unfold certOK at h
  simp only [Bool.and_eq_true, allF_iff, Bool.or_eq_true, Bool.not_eq_true', decide_eq_false_iff_not,
    decide_eq_true_eq, beq_iff_eq] at h
  obtain ⟨⟨⟨h1, h2⟩, h3⟩, h4⟩ := h
  refine ⟨fun u v huv => (h1 u v).resolve_left fun h => h huv,
    ⟨pos, fun u v hd huv => (h2 u v).resolve_left (by simp [hd, huv])⟩, ?_, fun v hv => ?_⟩
  · rw [← indegL_eq]; exact h3
  · rw [← indegL_eq]; exact (h4 v).resolve_left hv

end CF
