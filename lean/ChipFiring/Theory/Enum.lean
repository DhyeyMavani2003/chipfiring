import ChipFiring.Theory.LinEq
import ChipFiring.Model.Algos
/-
  T13: the enumeration `effDivs n k` (combinations with replacement → chip counts) lists exactly
  the effective divisors of degree k.
-/
open Finset

namespace CF
variable {n : Nat}

theorem countVec_nil : countVec ([] : List (Fin n)) = fun _ => 0 := by
  funext v; simp [countVec]

theorem countVec_cons (a : Fin n) (c : List (Fin n)) :
    countVec (a :: c) = fun v => countVec c v + chipAt a v := by
  funext v
  by_cases h : a = v <;> simp [countVec, chipAt, h, eq_comm]

theorem sum_count (l : List (Fin n)) : ∑ v, (l.count v : Int) = l.length := by
  show deg (countVec l) = l.length
  induction l with
  | nil => rw [countVec_nil]; simp [deg]
  | cons a l ih => rw [countVec_cons, deg_add, deg_chipAt, ih, List.length_cons]; push_cast; rfl

theorem cwr_sound {α : Type} (vs : List α) (k : Nat) : ∀ c ∈ cwr vs k, c.length = k ∧ ∀ x ∈ c, x ∈ vs := by
  induction vs generalizing k with
  | nil => cases k <;> simp [cwr_zero, cwr_nil_succ]
  | cons v vs ihv =>
    induction k with
    | zero => simp [cwr_zero]
    | succ k ihk =>
      simp only [cwr_cons_succ, List.mem_append, List.mem_map]
      rintro c (⟨c', hc', rfl⟩ | hc)
      · obtain ⟨h1, h2⟩ := ihk c' hc'
        exact ⟨by simp [h1], List.forall_mem_cons.mpr ⟨List.mem_cons_self, h2⟩⟩
      · obtain ⟨h1, h2⟩ := ihv (k + 1) c hc
        exact ⟨h1, fun x hx => List.mem_cons_of_mem _ (h2 x hx)⟩

theorem Eff.sub_chipAt {E : Fin n → Int} (hE : Eff E) {a : Fin n} (ha : 0 < E a) :
    Eff fun v => E v - chipAt a v := fun v => by
  have := hE v
  simp only [chipAt]
  split
  · subst_vars; omega
  · omega

theorem cwr_complete (vs : List (Fin n)) :
    ∀ (k : Nat) (E : Fin n → Int), Eff E → (∀ v, v ∉ vs → E v = 0) → deg E = (k : Int) →
      ∃ c ∈ cwr vs k, countVec c = E := by
  induction vs with
  | nil =>
    intro k E _ hsupp hd
    obtain rfl : E = fun _ => 0 := funext fun v => hsupp v (by simp)
    obtain rfl : k = 0 := by simpa [deg] using hd.symm
    exact ⟨[], by simp [cwr_zero], countVec_nil⟩
  | cons a vs ihv =>
    intro k
    induction k with
    | zero =>
      intro E hE _ hd
      exact ⟨[], by simp [cwr_zero], by rw [countVec_nil, eff_deg_zero hE (by simpa using hd)]⟩
    | succ k ihk =>
      intro E hE hsupp hd
      rw [cwr_cons_succ]
      by_cases ha : 0 < E a
      · -- take one chip off `a`
        obtain ⟨c, hc, hcE⟩ := ihk (fun v => E v - chipAt a v) (hE.sub_chipAt ha)
          (fun v hv => by
            have : v ≠ a := fun e => hv (e ▸ List.mem_cons_self)
            simp [chipAt, this, hsupp v hv])
          (by rw [deg_sub, deg_chipAt, hd]; push_cast; ring)
        refine ⟨a :: c, List.mem_append_left _ (List.mem_map_of_mem hc), ?_⟩
        rw [countVec_cons, hcE]
        funext v
        ring
      · -- no chip at `a`: the support lies in `vs`
        have ha0 : E a = 0 := le_antisymm (not_lt.mp ha) (hE a)
        obtain ⟨c, hc, hcE⟩ := ihv (k + 1) E hE (fun v hv => by
          by_cases h : v = a
          · exact h ▸ ha0
          · exact hsupp v (by simp [h, hv])) hd
        exact ⟨c, List.mem_append_right _ hc, hcE⟩

theorem effDivs_complete (k : Nat) (E : Fin n → Int) (hE : Eff E) (hk : deg E = (k : Int)) :
    E ∈ effDivs n k := by
  obtain ⟨c, hc, hcE⟩ := cwr_complete (List.finRange n) k E hE (fun v hv => absurd (List.mem_finRange v) hv) hk
  exact List.mem_map.mpr ⟨c, hc, hcE⟩

theorem cwr_complete_perm (vs s : List (Fin n)) (hs : ∀ x ∈ s, x ∈ vs) : ∃ c ∈ cwr vs s.length, c.Perm s := by
  obtain ⟨c, hc, hcE⟩ := cwr_complete vs s.length (countVec s) (fun v => by simp [countVec])
    (fun v hv => by simp [countVec, List.count_eq_zero.mpr fun h => hv (hs v h)]) (sum_count s)
  exact ⟨c, hc, List.perm_iff_count.mpr fun v => by simpa [countVec] using congrFun hcE v⟩

theorem effDivs_sound (k : Nat) (E : Fin n → Int) (h : E ∈ effDivs n k) : Eff E ∧ deg E = (k : Int) := by
  unfold effDivs at h
  obtain ⟨c, hc, rfl⟩ := List.mem_map.mp h
  refine ⟨fun v => by simp [countVec], ?_⟩
  rw [← (cwr_sound _ k c hc).1]
  exact sum_count c

end CF
