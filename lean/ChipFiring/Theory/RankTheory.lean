import ChipFiring.Theory.Ewd
import ChipFiring.Theory.Enum
import ChipFiring.Theory.Moves
import ChipFiring.Theory.Folds
import ChipFiring.Theory.Bfs
import Mathlib.Data.Nat.Order.Lemmas
/-
  The standing hypotheses `Good` and, under them: exactness of the winnability oracles, monotonicity,
  functionality and totality of the rank relation, the rank loop (T11, first half), the ways `rank` returns.
-/
open Finset

namespace CF
variable {n : Nat} (G : Graph n)

/-- standing hypotheses under which the model's winnability tests are exact -/
structure Good (G : Graph n) : Prop where
  wf : G.WF
  conn : G.Connected
  pos : 0 < n
  cover : ∀ q v, v ≠ q → v ∈ debtOrder G (fun _ => []) q

theorem good_of_connected (G : Graph n) (hG : G.WF) (hc : G.Connected) (hn : 0 < n) : Good G :=
  ⟨hG, hc, hn, cover_of_connected G hG hc _⟩

/-- both wrappers (`winnablePlain`: `opt = false`, `winnableOpt`: `opt = true`) are this `match` -/
theorem winnable_exact (hg : Good G) (fuel : Nat) (D : Fin n → Int) (opt b : Bool)
    (h : (match ewd G (fun _ => []) fuel (Divisor.ofFn D) opt with
      | none => none
      | some (.error _) => some false
      | some (.ok r) => some r.verdict) = some b) : b = true ↔ Winnable G D := by
  split at h
  · simp at h
  · rename_i he; exact absurd he (ewd_ne_error G hg.pos _ _ _ _)
  · rename_i r he
    obtain rfl : r.verdict = b := by simpa using h
    have := ewd_verdict_exact G hg.wf hg.cover (fun _ => ⟨hg.conn, Divisor.total_eq_deg_ofFn D⟩) he
    rwa [Divisor.deg_ofFn] at this

theorem winnablePlain_exact (hg : Good G) (fuel : Nat) (D : Fin n → Int) (b : Bool)
    (h : winnablePlain G fuel D = some b) : b = true ↔ Winnable G D :=
  winnable_exact G hg fuel D false b h

theorem winnableOpt_exact (hg : Good G) (fuel : Nat) (D : Fin n → Int) (b : Bool)
    (h : winnableOpt G fuel D = some b) : b = true ↔ Winnable G D :=
  winnable_exact G hg fuel D true b h

/-- "every effective E of degree k keeps D − E winnable" -/
def AllWin (D : Fin n → Int) (k : Nat) : Prop :=
  ∀ E : Fin n → Int, Eff E → deg E = (k : Int) → Winnable G (fun v => D v - E v)

theorem allWin_zero (D : Fin n → Int) : AllWin G D 0 ↔ Winnable G D := by
  have h0 : (fun v => D v - (fun _ : Fin n => (0 : Int)) v) = D := funext fun v => sub_zero (D v)
  refine ⟨fun h => h0 ▸ h (fun _ => 0) (fun _ => le_refl 0) Finset.sum_const_zero, fun hw E hE hd => ?_⟩
  obtain rfl := eff_deg_zero hE hd
  exact h0.symm ▸ hw

/-- T11 (monotonicity), in the form the proofs use -/
theorem AllWin.sub_le (hn : 0 < n) {D : Fin n → Int} {k : Nat} (h : AllWin G D k) {E : Fin n → Int}
    (hE : Eff E) (hd : deg E ≤ k) : Winnable G (fun v => D v - E v) := by
  -- pad `E` up to degree `k`, then take the padding off again
  obtain ⟨F, hF, hEF, hdeg⟩ := exists_eff_pad hn hE hd
  have := Winnable.add_eff G (h _ hEF hdeg) hF
  simpa [sub_add_eq_sub_sub] using this

theorem allWin_mono (hn : 0 < n) (D : Fin n → Int) {j k : Nat} (hjk : j ≤ k) (h : AllWin G D k) : AllWin G D j :=
  fun _ hE hdeg => h.sub_le G hn hE (by rw [hdeg]; exact_mod_cast hjk)

theorem allWin_congr {D D' : Fin n → Int} (h : LinEq G D D') (k : Nat) : AllWin G D k ↔ AllWin G D' k :=
  forall_congr' fun E => imp_congr_right fun _ => imp_congr_right fun _ => winnable_congr (LinEq.sub_right h E)

theorem isRank_iff (D : Fin n → Int) (r : Int) :
    IsRank G D r ↔ (r = -1 ∧ ¬ Winnable G D) ∨ (∃ k : Nat, r = k ∧ AllWin G D k ∧ ¬ AllWin G D (k + 1)) := by
  refine or_congr_right ⟨?_, ?_⟩
  · rintro ⟨h0, h1, E, hE, hd, hu⟩
    obtain ⟨k, rfl⟩ := Int.eq_ofNat_of_zero_le h0
    exact ⟨k, rfl, h1, fun hall => hu (hall E hE (by push_cast; exact hd))⟩
  · rintro ⟨k, rfl, h1, h2⟩
    unfold AllWin at h2
    push Not at h2
    obtain ⟨E, hE, hd, hu⟩ := h2
    exact ⟨Int.natCast_nonneg k, h1, E, hE, by push_cast at hd; exact hd, hu⟩

theorem isRank_functional (hn : 0 < n) (D : Fin n → Int) (r r' : Int) (h : IsRank G D r) (h' : IsRank G D r') :
    r = r' := by
  rw [isRank_iff] at h h'
  have zeroWin : ∀ k, AllWin G D k → Winnable G D := fun k hk =>
    (allWin_zero G D).mp (allWin_mono G hn D (Nat.zero_le k) hk)
  rcases h with ⟨rfl, hu⟩ | ⟨k, rfl, h1, h2⟩ <;> rcases h' with ⟨rfl, hu'⟩ | ⟨k', rfl, h1', h2'⟩
  · rfl
  · exact absurd (zeroWin k' h1') hu
  · exact absurd (zeroWin k h1) hu'
  · rcases Nat.lt_trichotomy k k' with hlt | heq | hgt
    · exact absurd (allWin_mono G hn D hlt h1') h2
    · rw [heq]
    · exact absurd (allWin_mono G hn D hgt h1) h2'

theorem exists_isRank (hG : G.WF) (hn : 0 < n) (D : Fin n → Int) : ∃ r, IsRank G D r := by
  by_cases hw : Winnable G D
  · -- more chips than `D` has cannot all be taken away
    have hex : ∃ k, ¬ AllWin G D k := by
      refine ⟨(deg D + 1).toNat, fun hall => ?_⟩
      have hdeg : ∀ {F : Fin n → Int}, Winnable G F → 0 ≤ deg F := fun h =>
        not_lt.mp fun hd => not_winnable_of_deg_neg G hG.symm hd h
      have h0 := hdeg hw
      have h1 := hdeg (hall _ (eff_pile ⟨0, hn⟩ (Int.natCast_nonneg _)) (deg_pile _ _))
      rw [deg_sub, deg_pile, Int.toNat_of_nonneg (by omega)] at h1
      omega
    -- the rank is the step at which `AllWin` first fails
    obtain ⟨k, h1, h2⟩ := Nat.exists_not_and_succ_of_not_zero_of_exists (p := fun k => ¬ AllWin G D k)
      (not_not_intro ((allWin_zero G D).mpr hw)) hex
    exact ⟨k, (isRank_iff G D k).mpr (Or.inr ⟨k, rfl, not_not.mp h1, h2⟩)⟩
  · exact ⟨-1, Or.inl ⟨rfl, hw⟩⟩

theorem isRank_congr {D D' : Fin n → Int} (h : LinEq G D D') (r : Int) : IsRank G D r ↔ IsRank G D' r := by
  simp only [isRank_iff, winnable_congr h, allWin_congr G h]
theorem allWinnable_exact (hg : Good G) (fuel : Nat) (D : Fin n → Int) (k : Nat) (b : Bool)
    (h : allWinnable G fuel D k = some b) : b = true ↔ AllWin G D k := by
  have key := foldl_option_inv _ (fun _ => rfl)
    (fun b done => b = true ↔ ∀ E ∈ done, Winnable G (fun v => D v - E v)) ?_ (effDivs n k) [] true b (by simp) h
  · rw [key, List.nil_append]
    exact ⟨fun hall E hE hd => hall E (effDivs_complete k E hE hd),
      fun hall E hE => hall E (effDivs_sound k E hE).1 (effDivs_sound k E hE).2⟩
  · intro b done E b' hI hs
    cases b with
    | false =>
      cases hs
      exact ⟨fun e => Bool.noConfusion e, fun hall =>
        Bool.noConfusion (hI.mpr fun E' hE' => hall E' (List.mem_append_left _ hE'))⟩
    | true =>
      rw [winnablePlain_exact G hg fuel _ b' hs]
      simp only [true_iff] at hI
      simp only [List.mem_append, List.mem_singleton]
      exact ⟨fun hw E' hE' => hE'.elim (hI E') (fun e => e ▸ hw), fun hall => hall E (Or.inr rfl)⟩

/-- the `while True` loop: started at j + 1 with `AllWin j` known, it returns the rank -/
theorem rankLoop_spec (hg : Good G) (fuel : Nat) (D : Fin n → Int) (f j : Nat) (r : Int) (hprev : AllWin G D j)
    (h : rankLoop G fuel D f (j + 1) = some r) : IsRank G D r := by
  generalize hk : j + 1 = k at h
  fun_induction rankLoop G fuel D f k generalizing j with
  | case1 | case2 => nomatch h
  | case3 f k ha =>
    cases h
    subst hk
    exact (isRank_iff G D _).mpr (Or.inr ⟨j, by push_cast; ring, hprev,
      fun hc => Bool.noConfusion ((allWinnable_exact G hg fuel D _ false ha).mpr hc)⟩)
  | case4 f k ha ih =>
    subst hk
    exact ih (j + 1) ((allWinnable_exact G hg fuel D _ true ha).mp rfl) rfl h

/-- what `rank` returns for a divisor once its winnability `b` is known: −1, or what the loop from 1
    returns -/
def plainRank (fuel f : Nat) (D : Fin n → Int) (b : Bool) : Option Int :=
  if b then rankLoop G fuel D f 1 else some (-1)

theorem isRank_of_plainRank (hg : Good G) (fuel f : Nat) (D : Fin n → Int) (b : Bool) (hb : b = true ↔ Winnable G D)
    (x : Int) (h : plainRank G fuel f D b = some x) : IsRank G D x := by
  cases b with
  | false => cases h; exact Or.inl ⟨rfl, fun hw => Bool.noConfusion (hb.mpr hw)⟩
  | true => exact rankLoop_spec G hg fuel D f 0 x ((allWin_zero G D).mpr (hb.mp rfl)) h

/-- how `rank` computes its value from the reduced divisor `red` of a winnable input -/
inductive RankWay (fuel : Nat) (Dv : Divisor n) (opt : Bool) (red : Reduced n) (r : Int) : Prop
  /-- optimized mode, degree above 2g − 2: Riemann–Roch gives the value at once -/
  | high (hopt : opt = true) (hdeg : 2 * G.genus - 2 < Dv.total) (hr : r = Dv.total - G.genus)
  /-- optimized mode, K − D* has fewer chips than D: the search runs on K − D* -/
  | dual (hopt : opt = true) (hdeg : Dv.total ≤ 2 * G.genus - 2)
      (hband : sumZ (fun v => canonicalOf G v - red.D v) < Dv.total) (b : Bool) (x : Int)
      (hb : winnablePlain G fuel (fun v => canonicalOf G v - red.D v) = some b)
      (hx : plainRank G fuel fuel (fun v => canonicalOf G v - red.D v) b = some x)
      (hr : r = x + (Dv.total + 1 - G.genus))
  /-- otherwise the search runs on D* -/
  | loop (hcase : opt = false ∨
        Dv.total ≤ 2 * G.genus - 2 ∧ ¬ sumZ (fun v => canonicalOf G v - red.D v) < Dv.total)
      (hl : rankLoop G fuel red.D fuel 1 = some r)

theorem rank_ok {fuel : Nat} {Dv : Divisor n} {opt : Bool} {r : Int} (h : rank G fuel Dv opt = some (.ok r)) :
    ∃ out, ewd G (fun _ => []) fuel Dv false = some (.ok out) ∧
      (out.verdict = false ∧ r = -1 ∨
       out.verdict = true ∧ ∃ red, out.red = some red ∧ RankWay G fuel Dv opt red r) := by
  -- the cases follow the branches of `rank`, in its order
  unfold rank at h
  split at h
  · cases h
  · cases h
  · rename_i out he
    refine ⟨out, he, ?_⟩
    cases hver : out.verdict with
    | false => simp only [hver, Bool.not_false, if_true] at h; cases h; exact Or.inl ⟨rfl, rfl⟩
    | true =>
      simp only [hver, Bool.not_true, Bool.false_eq_true, if_false] at h
      split at h
      · cases h
      · rename_i red hr
        refine Or.inr ⟨rfl, red, hr, ?_⟩
        simp only [get_mat] at h
        cases opt with
        | false =>
          simp only [Bool.false_eq_true, if_false, Option.map_eq_some_iff] at h
          obtain ⟨x, hx, e⟩ := h; cases e
          exact .loop (.inl rfl) hx
        | true =>
          simp only [if_true] at h
          split at h
          · -- total > 2g − 2
            cases h; exact .high rfl (by omega) rfl
          · split at h
            · -- deg (K − D*) < total: `winnablePlain` on K − D* did not return, said no, said yes
              rename_i hband
              split at h
              · cases h
              · rename_i hb
                cases h; exact .dual rfl (by omega) hband false (-1) hb rfl rfl
              · rename_i hb
                simp only [Option.map_eq_some_iff] at h
                obtain ⟨x, hx, e⟩ := h; cases e
                exact .dual rfl (by omega) hband true x hb hx rfl
            · rename_i hnband
              simp only [Option.map_eq_some_iff] at h
              obtain ⟨x, hx, e⟩ := h; cases e
              exact .loop (.inr ⟨by omega, hnband⟩) hx

/-- the two ways of returning that both modes share -/
theorem rank_common (hg : Good G) {fuel : Nat} {Dv : Divisor n} {out : EwdOut n} {r : Int}
    (he : ewd G (fun _ => []) fuel Dv false = some (.ok out))
    (h : out.verdict = false ∧ r = -1 ∨
      out.verdict = true ∧ ∃ red, out.red = some red ∧ rankLoop G fuel red.D fuel 1 = some r) : IsRank G Dv.deg r := by
  have hex := ewd_verdict_exact G hg.wf hg.cover (fun h => Bool.noConfusion h) he
  rcases h with ⟨hv, rfl⟩ | ⟨hv, red, hr, hl⟩
  · exact isRank_of_plainRank G hg fuel fuel _ false (by simpa [hv] using hex) _ rfl
  · obtain ⟨q, hI⟩ := ewd_red G hg.wf.symm he hr
    rw [isRank_congr G hI.linEq]
    exact isRank_of_plainRank G hg fuel fuel _ true (by simpa [hv, winnable_congr hI.linEq] using hex) _ hl

theorem gonality_unique (k k' : Nat) (h : IsGonality G k) (h' : IsGonality G k') : k = k' := by
  obtain ⟨⟨D, hE, hd, hr⟩, hmin⟩ := h
  obtain ⟨⟨D', hE', hd', hr'⟩, hmin'⟩ := h'
  rcases Nat.lt_trichotomy k k' with hlt | heq | hgt
  · exact absurd hr (hmin' D hE (by rw [hd]; exact_mod_cast hlt))
  · exact heq
  · exact absurd hr' (hmin D' hE' (by rw [hd']; exact_mod_cast hgt))

end CF
