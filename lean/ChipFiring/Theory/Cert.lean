import ChipFiring.Theory.RankTheory
/-
  Decidable certificates for the standing hypotheses (`Good`: well-formed, connected, non-empty; covering follows),
  so that theorems about concrete (regenerated) graphs can be discharged by kernel evaluation.
-/
namespace CF
variable {n : Nat}

/-- one round of relaxation of a distance estimate `d` -/
def relax (G : Graph n) (d : Fin n → Nat) : Fin n → Nat := fun v =>
  (List.finRange n).foldl (fun m w => if 0 < G.adj v w then min m (d w + 1) else m) (d v)

/-- BFS distances from `q` by `n` rounds of relaxation (unreached = n) -/
def distFrom (G : Graph n) (q : Fin n) : Fin n → Nat :=
  (List.range n).foldl (fun d _ => (mat (relax G d)).get) (fun v => if v = q then 0 else n)

/-- a rank function towards `q`: q has rank 0 and every other vertex has a neighbour of smaller rank -/
def rankCert (G : Graph n) (q : Fin n) (rk : Fin n → Nat) : Bool :=
  decide (rk q = 0) && allF fun v => decide (v = q) || anyF fun w => decide (0 < G.adj v w) && decide (rk w < rk v)

def connectedCert (G : Graph n) : Bool := allF fun q => rankCert G q (distFrom G q)

theorem connected_of_cert (G : Graph n) (h : connectedCert G = true) : G.Connected := by
  intro q
  have hq := (allF_iff _).mp h q
  simp only [rankCert, Bool.and_eq_true, decide_eq_true_eq, allF_iff, Bool.or_eq_true, anyF_iff] at hq
  exact ⟨distFrom G q, hq.1, fun v hv => (hq.2 v).resolve_left hv⟩

def coverCert (G : Graph n) : Bool :=
  allF fun q => allF fun v => decide (v = q) || (debtOrder G (fun _ => []) q).contains v

def wfCert (G : Graph n) : Bool :=
  (allF fun v => allF fun w => decide (G.adj v w = G.adj w v)) &&
  (allF fun v => decide (G.adj v v = 0)) &&
  (allF fun v => decide (G.val v = sumN (G.adj v))) &&
  decide (2 * G.total = sumN G.val)

theorem wf_of_cert (G : Graph n) (h : wfCert G = true) : G.WF := by
  unfold wfCert at h
  simp only [Bool.and_eq_true, allF_iff, decide_eq_true_eq] at h
  obtain ⟨⟨⟨h1, h2⟩, h3⟩, h4⟩ := h
  refine ⟨h1, h2, fun v => ?_, ?_⟩
  · rw [h3 v]; simp
  · rw [h4]; simp

def goodCert (G : Graph n) : Bool := decide (0 < n) && wfCert G && connectedCert G && coverCert G

/-- covering follows from the first three checks (`good_of_connected`) -/
theorem good_of_cert (G : Graph n) (h : goodCert G = true) : Good G := by
  unfold goodCert at h
  simp only [Bool.and_eq_true, decide_eq_true_eq] at h
  exact good_of_connected G (wf_of_cert G h.1.1.2) (connected_of_cert G h.1.2) h.1.1.1

end CF
