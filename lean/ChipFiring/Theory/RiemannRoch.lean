import ChipFiring.Theory.Potential
import ChipFiring.Theory.BurnOrient
import ChipFiring.Theory.RankTheory
import ChipFiring.Theory.Acyclic
/-
  T12: the Riemann–Roch theorem for graphs (Baker–Norine 2007), from T7, T5 and T9.
  N = { ν_O = indeg_O − 1 : O a full acyclic orientation }.
  RR1: for every D exactly one of "D winnable", "ν − D winnable for some ν ∈ N" holds.
  RR2: ν ∈ N → K − ν ∈ N.
  Then r(D) + 1 = min over D' ~ D, ν ∈ N of deg⁺(D' − ν), and the formula follows.
-/
open Finset

namespace CF
variable {n : Nat} (G : Graph n)

/-- the set N of the divisors of full acyclic orientations (in-degree minus one) -/
def NuSet (ν : Fin n → Int) : Prop :=
  ∃ dir, OFull G dir ∧ OAcyclic G dir ∧ ∀ v, ν v = indeg G dir v - 1

def degPlus (D : Fin n → Int) : Int := ∑ v, max (D v) 0

theorem degPlus_nonneg (D : Fin n → Int) : 0 ≤ degPlus D :=
  Finset.sum_nonneg fun _ _ => le_max_right _ _

theorem degPlus_neg (D : Fin n → Int) : degPlus (fun v => - D v) = degPlus D - deg D := by
  unfold degPlus deg
  rw [← Finset.sum_sub_distrib]
  exact Finset.sum_congr rfl fun v _ => by simp only; omega

theorem nu_deg (hG : G.WF) {ν : Fin n → Int} (h : NuSet G ν) : deg ν = G.genus - 1 := by
  obtain ⟨dir, hf, -, hν⟩ := h
  rw [← sum_indeg_sub_one G hG hf]
  exact Finset.sum_congr rfl fun v _ => hν v

/-- RR2: the reverse orientation -/
theorem nu_reverse (hG : G.WF) {ν : Fin n → Int} (h : NuSet G ν) :
    NuSet G (fun v => canonical G v - ν v) := by
  obtain ⟨dir, hf, ha, hν⟩ := h
  refine ⟨revDir dir, revDir_full G dir hf, revDir_acyclic G hG.symm dir ha, ?_⟩
  intro v
  have := indeg_add_rev G hG.symm hf v
  simp only [canonical, hν v]
  omega

/-- RR1, first half -/
theorem exists_nu_of_unwinnable (hG : G.WF) (hc : G.Connected) (hn : 0 < n) (D : Fin n → Int)
    (hu : ¬ Winnable G D) : ∃ ν, NuSet G ν ∧ Winnable G (fun v => ν v - D v) := by
  let q : Fin n := ⟨0, hn⟩
  obtain ⟨D', hle, hqr⟩ := exists_qreduced G hG hc q D
  have hq : D' q < 0 := by
    by_contra hq
    exact hu ((winnable_congr hle).mpr ((qreduced_verdict G q D' hqr).mpr (by omega)))
  have hall := (burn_all_iff G q D').mpr hqr.2
  obtain ⟨hf, ha, h0, hb, -⟩ := burn_certificate hG q D' hall
  refine ⟨fun v => indeg G ((burn G q D').dir G) v - 1, ⟨_, hf, ha, fun _ => rfl⟩, ?_⟩
  apply (winnable_congr (LinEq.rsub hle _)).mpr
  apply Eff.winnable
  intro v
  show 0 ≤ indeg G ((burn G q D').dir G) v - 1 - D' v
  by_cases hv : v = q
  · rw [hv, ← BState.indeg_eq, h0]; omega
  · have := hb v hv; rw [BState.indeg_eq] at this; omega

/-- RR1, second half -/
theorem not_both_winnable (hG : G.WF) (hn : 0 < n) {ν : Fin n → Int} (hν : NuSet G ν) (D : Fin n → Int)
    (h1 : Winnable G D) (h2 : Winnable G (fun v => ν v - D v)) : False := by
  obtain ⟨dir, -, ha, hνv⟩ := hν
  obtain ⟨E, hle, hE⟩ := h1
  have h3 : Winnable G (fun v => ν v - E v) := (winnable_congr (LinEq.rsub hle ν)).mp h2
  have h4 := Winnable.add_eff G h3 hE
  have : (fun v => ν v - E v + E v) = fun v => indeg G dir v - 1 := by
    funext v; rw [hνv v]; ring
  rw [this] at h4
  exact acyclic_unwinnable G hG.symm hn dir ha h4

/-- some representative of the class of `D` exceeds some ν ∈ N by at most `k` chips -/
def NearNu (D : Fin n → Int) (k : Int) : Prop :=
  ∃ D' ν, LinEq G D D' ∧ NuSet G ν ∧ degPlus (fun v => D' v - ν v) ≤ k

theorem NearNu.mono {D : Fin n → Int} {j k : Int} (h : NearNu G D j) (hjk : j ≤ k) : NearNu G D k := by
  obtain ⟨D', ν, h1, h2, h3⟩ := h
  exact ⟨D', ν, h1, h2, le_trans h3 hjk⟩

theorem NearNu.nonneg {D : Fin n → Int} {k : Int} (h : NearNu G D k) : 0 ≤ k := by
  obtain ⟨D', ν, -, -, h3⟩ := h
  exact le_trans (degPlus_nonneg _) h3

/-- Baker–Norine Lemma 2.7 -/
theorem not_allWin_iff (hG : G.WF) (hc : G.Connected) (hn : 0 < n) (D : Fin n → Int) (k : Nat) :
    ¬ AllWin G D k ↔ NearNu G D k := by
  constructor
  · intro h
    unfold AllWin at h
    push Not at h
    obtain ⟨E, hE, hd, hu⟩ := h
    obtain ⟨ν, hν, E', hle, hE'⟩ := exists_nu_of_unwinnable G hG hc hn _ hu
    -- `ν − (D − E) ~ E'`, hence `D ~ ν − E' + E`, which exceeds `ν` by at most `E`
    have h1 := LinEq.sub_right (LinEq.rsub hle ν) (fun v => - E v)
    refine ⟨fun v => ν v - E' v - - E v, ν, ?_, hν, ?_⟩
    · convert h1 using 2
      ring
    · calc degPlus (fun v => ν v - E' v - - E v - ν v)
          ≤ deg E := Finset.sum_le_sum fun w _ => by
            have := hE' w
            have := hE w
            show max (ν w - E' w - - E w - ν w) 0 ≤ E w
            omega
        _ = k := hd
  · rintro ⟨D', ν, hle, hν, hk⟩ hall
    -- take the positive part of `D' − ν` away: what is left lies below `ν`
    have hw := (winnable_congr (LinEq.sub_right hle _)).mp
      (hall.sub_le G hn (E := fun v => max (D' v - ν v) 0) (fun v => le_max_right _ _) hk)
    refine not_both_winnable G hG hn hν _ hw (Eff.winnable G fun v => ?_)
    show 0 ≤ ν v - (D' v - max (D' v - ν v) 0)
    omega

/-- the symmetry behind Riemann–Roch -/
theorem nearNu_dual (hG : G.WF) (D : Fin n → Int) (k : Int) (h : NearNu G D k) :
    NearNu G (fun v => canonical G v - D v) (k - deg D + G.genus - 1) := by
  obtain ⟨D', ν, hle, hν, hk⟩ := h
  refine ⟨fun v => canonical G v - D' v, fun v => canonical G v - ν v, LinEq.rsub hle _, nu_reverse G hG hν, ?_⟩
  have heq : (fun v => (canonical G v - D' v) - (canonical G v - ν v)) = fun v => - (D' v - ν v) := by
    funext v; ring
  rw [heq, degPlus_neg, deg_sub, nu_deg G hG hν, deg_linEq G hG.symm hle]
  omega

theorem isRank_nearNu (hG : G.WF) (hc : G.Connected) (hn : 0 < n) (D : Fin n → Int) (r : Int) (h : IsRank G D r) :
    NearNu G D (r + 1) ∧ ∀ j, j ≤ r → ¬ NearNu G D j := by
  rw [isRank_iff] at h
  rcases h with ⟨rfl, hu⟩ | ⟨k, rfl, h1, h2⟩
  · constructor
    · have := (not_allWin_iff G hG hc hn D 0).mp fun hall => hu ((allWin_zero G D).mp hall)
      simpa using this
    · intro j hj hN
      have := NearNu.nonneg G hN; omega
  · constructor
    · have := (not_allWin_iff G hG hc hn D (k + 1)).mp h2
      simpa using this
    · intro j hj hN
      have hN' : NearNu G D (k : Int) := NearNu.mono G hN hj
      exact (not_allWin_iff G hG hc hn D k).mpr hN' h1

/-- T12: r(D) − r(K − D) = deg D + 1 − g -/
theorem riemann_roch (hG : G.WF) (hc : G.Connected) (hn : 0 < n) (D : Fin n → Int) (r r' : Int)
    (h : IsRank G D r) (h' : IsRank G (fun v => canonical G v - D v) r') :
    r - r' = deg D + 1 - G.genus := by
  obtain ⟨hP, hnP⟩ := isRank_nearNu G hG hc hn D r h
  obtain ⟨hP', hnP'⟩ := isRank_nearNu G hG hc hn _ r' h'
  have h1 := nearNu_dual G hG D _ hP
  have h2 := nearNu_dual G hG _ _ hP'
  have hKK : (fun v => canonical G v - (canonical G v - D v)) = D := by funext v; ring
  rw [hKK, deg_sub, canonical_deg G hG] at h2
  have a1 : ¬ (r + 1 - deg D + G.genus - 1 ≤ r') := fun hle => hnP' _ hle h1
  have a2 : ¬ (r' + 1 - (2 * G.genus - 2 - deg D) + G.genus - 1 ≤ r) := fun hle => hnP _ hle h2
  omega

theorem isRank_of_dual (hG : G.WF) (hc : G.Connected) (hn : 0 < n) (D : Fin n → Int) (r' : Int)
    (h' : IsRank G (fun v => canonical G v - D v) r') : IsRank G D (r' + (deg D + 1 - G.genus)) := by
  obtain ⟨r, hr⟩ := exists_isRank G hG hn D
  have := riemann_roch G hG hc hn D r r' hr h'
  rwa [show r' + (deg D + 1 - G.genus) = r by omega]
theorem rank_high_degree (hG : G.WF) (hc : G.Connected) (hn : 0 < n) (D : Fin n → Int)
    (h : 2 * G.genus - 2 < deg D) : IsRank G D (deg D - G.genus) := by
  have hK : IsRank G (fun v => canonical G v - D v) (-1) :=
    Or.inl ⟨rfl, not_winnable_of_deg_neg G hG.symm (by rw [deg_sub, canonical_deg G hG]; omega)⟩
  have := isRank_of_dual G hG hc hn D (-1) hK
  rwa [show (-1 : Int) + (deg D + 1 - G.genus) = deg D - G.genus by ring] at this
end CF
