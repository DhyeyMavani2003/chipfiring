import ChipFiring.Model.Comb
import Mathlib.Data.List.Nodup
import Mathlib.SetTheory.Cardinal.Finite
/-
  `boxConfigs vs bound` lists, once each, the configurations with `0 ≤ c v < bound v` on `vs` and 0
  elsewhere.
-/

theorem List.Nodup.length_eq_natCard {α : Type*} [DecidableEq α] {L : List α} (hnd : L.Nodup) {P : α → Prop}
    (hmem : ∀ x, x ∈ L ↔ P x) : L.length = Nat.card {x // P x} := by
  rw [Nat.subtype_card L.toFinset fun x => List.mem_toFinset.trans (hmem x), List.toFinset_card_of_nodup hnd]

namespace CF
variable {n : Nat}

/-- one more coordinate -/
def boxStep (bound : Fin n → Nat) (acc : List (Fin n → Int)) (v : Fin n) : List (Fin n → Int) :=
  acc.flatMap fun c => (List.range (bound v)).map fun (k : Nat) => fun w => if w = v then (k : Int) else c w

/-- what the fold has produced once the vertices in `done` are handled: the box over `done`, each
    point once -/
def BoxOver (bound : Fin n → Nat) (done : List (Fin n)) (acc : List (Fin n → Int)) : Prop :=
  acc.Nodup ∧ ∀ c, c ∈ acc ↔ (∀ v ∈ done, 0 ≤ c v ∧ c v < bound v) ∧ ∀ w, w ∉ done → c w = 0

theorem BoxOver.step {bound : Fin n → Nat} {done : List (Fin n)} {acc : List (Fin n → Int)} {v : Fin n}
    (h : BoxOver bound done acc) (hv : v ∉ done) : BoxOver bound (v :: done) (boxStep bound acc v) := by
  obtain ⟨hnd, hmem⟩ := h
  have h0 : ∀ c ∈ acc, c v = 0 := fun c hc => ((hmem c).mp hc).2 v hv
  unfold boxStep
  constructor
  · -- different k differ at v; different c differ off v, where they are untouched
    rw [List.nodup_flatMap]
    refine ⟨fun c _ => List.nodup_range.map_on fun a _ b _ h => ?_, hnd.imp_of_mem fun {c c'} hc hc' hne => ?_⟩
    · simpa using congrFun h v
    · rw [Function.onFun, List.disjoint_left]
      intro s hs hs'
      obtain ⟨k, -, rfl⟩ := List.mem_map.mp hs
      obtain ⟨k', -, h⟩ := List.mem_map.mp hs'
      refine hne (funext fun w => ?_)
      by_cases hw : w = v
      · rw [hw, h0 c hc, h0 c' hc']
      · simpa [hw] using (congrFun h w).symm
  · intro c
    rw [List.forall_mem_cons]
    simp only [List.mem_flatMap, List.mem_map, List.mem_range, hmem, List.mem_cons, not_or]
    constructor
    · rintro ⟨c0, ⟨hr, ho⟩, k, hk, rfl⟩
      refine ⟨⟨by simpa using hk, fun u hu => ?_⟩, fun w hw => by simpa [hw.1] using ho w hw.2⟩
      have huv : u ≠ v := fun e => hv (e ▸ hu)
      simpa [huv] using hr u hu
    · rintro ⟨⟨hcv, hr⟩, ho⟩
      refine ⟨fun w => if w = v then 0 else c w, ⟨fun u hu => ?_, fun w hw => ?_⟩, (c v).toNat, by omega, funext fun w => ?_⟩
      · have huv : u ≠ v := fun e => hv (e ▸ hu)
        simpa [huv] using hr u hu
      · by_cases hwv : w = v
        · simp [hwv]
        · simpa [hwv] using ho w ⟨hwv, hw⟩
      · by_cases hwv : w = v
        · simp [hwv]; omega
        · simp [hwv]

theorem BoxOver.fold {bound : Fin n → Nat} : ∀ (vs done : List (Fin n)) (acc : List (Fin n → Int)),
    BoxOver bound done acc → (vs.reverse ++ done).Nodup →
    BoxOver bound (vs.reverse ++ done) (vs.foldl (boxStep bound) acc)
  | [], _, _, h, _ => h
  | v :: vs, done, acc, h, hnd => by
    rw [List.reverse_cons, List.append_assoc, List.singleton_append] at hnd ⊢
    exact BoxOver.fold vs (v :: done) _ (h.step (List.nodup_cons.mp (List.nodup_append.mp hnd).2.1).1) hnd

theorem boxOver_boxConfigs (bound : Fin n → Nat) (vs : List (Fin n)) (hnd : vs.Nodup) :
    BoxOver bound vs.reverse (boxConfigs vs bound) := by
  have h0 : BoxOver bound [] [fun _ => 0] :=
    ⟨List.nodup_singleton _, fun c => by simp [funext_iff]⟩
  show BoxOver bound vs.reverse (vs.foldl (boxStep bound) [fun _ => 0])
  simpa only [List.append_nil] using BoxOver.fold vs [] _ h0 (by rwa [List.append_nil, List.nodup_reverse])

theorem mem_boxConfigs (bound : Fin n → Nat) (vs : List (Fin n)) (hnd : vs.Nodup) (c : Fin n → Int) :
    c ∈ boxConfigs vs bound ↔ (∀ v ∈ vs, 0 ≤ c v ∧ c v < bound v) ∧ ∀ w, w ∉ vs → c w = 0 := by
  simpa only [List.mem_reverse] using (boxOver_boxConfigs bound vs hnd).2 c

theorem boxConfigs_nodup (bound : Fin n → Nat) (vs : List (Fin n)) (hnd : vs.Nodup) : (boxConfigs vs bound).Nodup :=
  (boxOver_boxConfigs bound vs hnd).1

end CF
